import CoreBGP.Model.Server
import CoreBGP.Spec.Server
import CoreBGP.Lemmas.Assoc
namespace CoreBGP.Lemmas.Server
open CoreBGP CoreBGP.Model CoreBGP.Lemmas.Assoc

theorem validateOptions_iff (c : PeerCfg) :
    validateOptions c = true ↔ (c.holdNs = 0 ∨ 3000000000 ≤ c.holdNs) ∧ 1 ≤ c.port ∧ c.port ≤ 65535 := by
  simp only [validateOptions, Bool.not_eq_true', Bool.or_eq_false_iff, Bool.and_eq_false_iff,
    decide_eq_false_iff_not]
  omega

theorem validateConfig_iff (c : PeerCfg) :
    validateConfig c = true ↔
      c.remote.kind ≠ .invalid ∧ (c.localAddr.kind = .invalid ∨ c.localAddr.kind = c.remote.kind) ∧
      c.localAS ≠ 0 ∧ c.remoteAS ≠ 0 := by
  obtain ⟨⟨rk, _⟩, _, _, ⟨lk, _⟩, _, _, _⟩ := c
  cases rk <;> cases lk <;> simp [validateConfig, Addr.isValid, Addr.is4, Addr.is6]

theorem addPeer_invalidOptions (s : Server) (c : PeerCfg) (ho : validateOptions c = false) :
    s.addPeer c = (s, some .invalidOptions) := by
  simp [Server.addPeer, ho]

theorem addPeer_invalidConfig (s : Server) (c : PeerCfg) (ho : validateOptions c = true)
    (hc : validateConfig c = false) : s.addPeer c = (s, some .invalidConfig) := by
  simp [Server.addPeer, ho, hc]

theorem addPeer_exists (s : Server) (c : PeerCfg) (ho : validateOptions c = true)
    (hc : validateConfig c = true) (hex : (s.lookup c.remote).isSome = true) :
    s.addPeer c = (s, some .alreadyExists) := by
  simp [Server.addPeer, ho, hc, hex]

theorem addPeer_ok (s : Server) (c : PeerCfg) (ho : validateOptions c = true)
    (hc : validateConfig c = true) (hex : (s.lookup c.remote).isSome = false) :
    s.addPeer c =
      ({ s with peers := s.peers ++ [(c.remote, c)],
                running := if s.serving then s.running ++ [c.remote] else s.running }, none) := by
  simp [Server.addPeer, ho, hc, hex]

theorem deletePeer_none (s : Server) (k : Addr) (h : s.lookup k = none) :
    s.deletePeer k = (s, some .notExist) := by
  simp [Server.deletePeer, h]

theorem deletePeer_some (s : Server) (k : Addr) (c : PeerCfg) (h : s.lookup k = some c) :
    s.deletePeer k =
      ({ s with peers := s.peers.filter (·.1 ≠ k), running := s.running.filter (· ≠ k) }, none) := by
  simp [Server.deletePeer, h]

theorem addPeer_state (s : Server) (c : PeerCfg) :
    (s.addPeer c).1 = s ∨ ((s.lookup c.remote).isSome = false ∧ (s.addPeer c).1 =
      { s with peers := s.peers ++ [(c.remote, c)],
               running := if s.serving then s.running ++ [c.remote] else s.running }) := by
  cases ho : validateOptions c with
  | false => exact .inl (by rw [addPeer_invalidOptions s c ho])
  | true =>
    cases hc : validateConfig c with
    | false => exact .inl (by rw [addPeer_invalidConfig s c ho hc])
    | true =>
      cases hex : (s.lookup c.remote).isSome with
      | true => exact .inl (by rw [addPeer_exists s c ho hc hex])
      | false => exact .inr ⟨rfl, by rw [addPeer_ok s c ho hc hex]⟩

theorem deletePeer_state (s : Server) (k : Addr) :
    (s.deletePeer k).1 = s ∨ (s.deletePeer k).1 =
      { s with peers := s.peers.filter (·.1 ≠ k), running := s.running.filter (· ≠ k) } := by
  cases h : s.lookup k with
  | none => exact .inl (by rw [deletePeer_none s k h])
  | some c => exact .inr (by rw [deletePeer_some s k c h])

theorem lookup_insert_new (s s' : Server) (c : PeerCfg) (hp : s'.peers = s.peers ++ [(c.remote, c)])
    (hex : (s.lookup c.remote).isSome = false) (x : Addr) :
    s'.lookup x = if x = c.remote then some c else s.lookup x := by
  rw [Server.lookup, Option.isSome_map, Option.isSome_eq_false_iff, Option.isNone_iff_eq_none] at hex
  simp only [Server.lookup, hp]
  exact find_append_new _ _ _ _ hex

theorem lookup_filter_ne (s s' : Server) (k : Addr) (hp : s'.peers = s.peers.filter (·.1 ≠ k))
    (x : Addr) : s'.lookup x = if x = k then none else s.lookup x := by
  simp only [Server.lookup, hp]
  rw [find_filter_ne]
  by_cases hx : x = k <;> simp [hx]

/-! The back-off lemmas state the constants as numerals (`sec60`, `sec300` give the link): a product such as
`60 * Spec.sec` left to the kernel is multiplied in unary. -/

theorem usd_zero (gap : Option Nat) : updateStartupDelay 0 gap = 60000000000 := by
  cases gap with
  | none => rfl
  | some g =>
    unfold updateStartupDelay
    dsimp only
    split <;> rfl

theorem usd_amnesia (d g : Nat) (hg : 300000000000 ≤ g) :
    updateStartupDelay d (some g) = 60000000000 := by
  have hg' : g ≥ Gen.errorAmnesiaTime := hg
  unfold updateStartupDelay
  dsimp only
  rw [if_pos hg']
  rfl

theorem usd_double (d : Nat) (gap : Option Nat) (hd : 0 < d)
    (hg : ∀ g, gap = some g → g < 300000000000) :
    updateStartupDelay d gap = min (2 * d) 300000000000 := by
  unfold updateStartupDelay
  cases gap with
  | none => dsimp only; rw [if_pos hd]; rfl
  | some g =>
    have hg' : ¬ g ≥ Gen.errorAmnesiaTime := Nat.not_le.2 (hg g rfl)
    dsimp only
    rw [if_neg hg', if_pos hd]; rfl

theorem nextDelay_none (p : Nat) : Spec.nextDelay p none = 60000000000 := rfl

theorem nextDelay_reset (p g : Nat) (h : 300000000000 ≤ g ∨ p = 0) :
    Spec.nextDelay p (some g) = 60000000000 := by
  have h' : g ≥ 300 * Spec.sec ∨ p = 0 := h
  unfold Spec.nextDelay
  dsimp only
  rw [if_pos h']
  rfl

theorem nextDelay_double (p g : Nat) (hg : g < 300000000000) (hp : p ≠ 0) :
    Spec.nextDelay p (some g) = min (2 * p) 300000000000 := by
  have h' : ¬ (g ≥ 300 * Spec.sec ∨ p = 0) := fun h =>
    h.elim (fun h => Nat.not_le.2 hg h) hp
  unfold Spec.nextDelay
  dsimp only
  rw [if_neg h']
  rfl

theorem usd_eq_nextDelay (prev : Nat) (gap : Option Nat) (hfirst : gap = none → prev = 0) :
    updateStartupDelay prev gap = Spec.nextDelay prev gap := by
  cases gap with
  | none =>
    rw [hfirst rfl, usd_zero, nextDelay_none]
  | some g =>
    by_cases hg : 300000000000 ≤ g
    · rw [usd_amnesia prev g hg, nextDelay_reset prev g (Or.inl hg)]
    · by_cases hp : prev = 0
      · rw [hp, usd_zero, nextDelay_reset 0 g (Or.inr rfl)]
      · rw [usd_double prev (some g) (by omega) (fun g' h => by cases h; omega),
          nextDelay_double prev g (by omega) hp]

theorem sec60 : 60 * Spec.sec = 60000000000 := rfl
theorem sec300 : 300 * Spec.sec = 300000000000 := rfl

end CoreBGP.Lemmas.Server
