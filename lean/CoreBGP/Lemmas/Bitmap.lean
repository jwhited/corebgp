import CoreBGP.Model.Bitmap
/-!
# Helper lemmas for `CoreBGP.Props.C16B`: bit-level facts about `bitMask` / `wordIdx`

Everything goes through `UInt32.toNat` and `Nat.testBit`.
-/
namespace CoreBGP.Lemmas.Bitmap
open CoreBGP CoreBGP.Model

theorem bitMask_toNat (b : UInt8) : (bitMask b).toNat = 2 ^ (b.toNat % 32) := by
  have h : b.toNat % 32 < 32 := Nat.mod_lt _ (by decide)
  unfold bitMask
  rw [UInt32.toNat_shiftLeft, UInt32.toNat_ofNat']
  have h2 : b.toNat % 32 % 2 ^ 32 % 32 = b.toNat % 32 := by omega
  rw [h2, UInt32.toNat_one, Nat.one_shiftLeft]
  apply Nat.mod_eq_of_lt
  exact Nat.pow_lt_pow_right (by decide) h

theorem nat_and_two_pow_ne_zero (x k : Nat) : (x &&& 2 ^ k != 0) = x.testBit k := by
  cases hb : x.testBit k
  · have : x &&& 2 ^ k = 0 := by
      apply Nat.eq_of_testBit_eq
      intro i
      by_cases hki : k = i
      · subst hki; simp [hb]
      · simp [hki]
    simp [this]
  · have : x &&& 2 ^ k ≠ 0 := by
      intro h
      have h2 : (x &&& 2 ^ k).testBit k = true := by
        rw [Nat.testBit_and, hb]; simp
      rw [h, Nat.zero_testBit] at h2
      exact Bool.noConfusion h2
    simpa using this

theorem and_mask (x : UInt32) (b : UInt8) :
    ((x &&& bitMask b) != 0) = x.toNat.testBit (b.toNat % 32) := by
  rw [← nat_and_two_pow_ne_zero, ← bitMask_toNat, ← UInt32.toNat_and]
  cases h : (x &&& bitMask b) != 0
  · have : x &&& bitMask b = 0 := by simpa using h
    simp [this]
  · have h1 : x &&& bitMask b ≠ 0 := by simpa using h
    have : (x &&& bitMask b).toNat ≠ 0 := fun h0 => h1 (UInt32.toNat_inj.mp (by simpa using h0))
    simpa using this

theorem or_mask_testBit (x : UInt32) (b : UInt8) (k : Nat) :
    (x ||| bitMask b).toNat.testBit k = (decide (b.toNat % 32 = k) || x.toNat.testBit k) := by
  rw [UInt32.toNat_or, bitMask_toNat, Nat.testBit_or, Nat.testBit_two_pow, Bool.or_comm]

theorem eq_of_wordIdx_mod (b c : UInt8) (h1 : wordIdx b = wordIdx c) (h2 : b.toNat % 32 = c.toNat % 32) : b = c := by
  apply UInt8.toNat_inj.mp
  have := Fin.ext_iff.mp h1
  simp only [wordIdx] at this
  omega

end CoreBGP.Lemmas.Bitmap
