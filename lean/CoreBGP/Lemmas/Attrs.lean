import CoreBGP.Model.Update
import CoreBGP.Spec.Wire
import CoreBGP.Spec.Update
import CoreBGP.Lemmas.Bytes
/-!
Lemmas for C18 / C19 (and the MP_REACH part of C05). The typed attribute decoders: the flag check and the length
fault against the specification's error data (`validateFlags_*`, `attrLenBad_eq`), the list-valued values as round
trips (`u32set_go_rt`, `chunks4_rt`, `largeComms_rt`), the AS_PATH segment loop against the reference grammar
(`asPathLoop_spec`). Then the MP_REACH splitter (`mpReach_eq`), the prefix decoders against `Spec.parsePfxs`
(`prefixesLoop_spec`, `addPathLoop_spec`), and the reference parser's own round trip (`parsePfxs_tr`, `parsePfxs_rt`).
-/
namespace CoreBGP.Lemmas
open CoreBGP CoreBGP.Model

theorem u8_ofNat_eq_of_mod (a b : Nat) (h : a % 256 = b % 256) : UInt8.ofNat a = UInt8.ofNat b := by
  rw [← UInt8.ofNat_mod_size, h, UInt8.ofNat_mod_size]

theorem prop_eq_bool (P : Prop) [Decidable P] (o : Bool) : (P = (o = true)) ↔ (decide P = o) := by
  cases o <;> by_cases h : P <;> simp [h]

theorem notifData_eq (code : UInt8) (v : Bytes) :
    notifDataForAttrBasedErr code v = Spec.attrErrData code v := by
  unfold notifDataForAttrBasedErr Spec.attrErrData
  congr 2
  split
  · simp only [be16Bytes, len16, Spec.u16, UInt16.toNat_ofNat']
    congr 1
    · apply u8_ofNat_eq_of_mod; omega
    · congr 1; apply u8_ofNat_eq_of_mod; omega
  · rfl

theorem validateFlags_conflict (flags code : UInt8) (v : Bytes) (o t : Bool)
    (h : flagOptional flags ≠ o ∨ flagTransitive flags ≠ t) :
    validateFlags flags code v o t = some (.taw code (some ⟨3, 4, Spec.attrErrData code v⟩)) := by
  unfold validateFlags
  rw [if_pos h, notifData_eq]
  rfl

theorem validateFlags_ok (flags code : UInt8) (v : Bytes) (o t : Bool)
    (h1 : flagOptional flags = o) (h2 : flagTransitive flags = t) :
    validateFlags flags code v o t = none := by
  unfold validateFlags
  simp [h1, h2]

theorem attrLenBad_eq (code : UInt8) (v : Bytes) :
    attrLenBad code v = ⟨3, 5, Spec.attrErrData code v⟩ := by
  unfold attrLenBad
  rw [notifData_eq]
  rfl

theorem u32set_go_rt : ∀ (b : Bytes), b.length % 4 = 0 →
    ∃ l, decodeUint32Set.go b = some l ∧ (l.map be32Bytes).flatten = b
  | [], _ => ⟨[], rfl, rfl⟩
  | a :: b :: c :: d :: rest, h => by
    have h' : rest.length % 4 = 0 := by simp only [List.length_cons] at h; omega
    obtain ⟨l, hl, hf⟩ := u32set_go_rt rest h'
    refine ⟨be32 a b c d :: l, by simp [decodeUint32Set.go, hl], ?_⟩
    simp only [List.map_cons, List.flatten_cons, be32Bytes_be32, hf]
    rfl

theorem u32set_eq_go (b : Bytes) (h : b ≠ []) : decodeUint32Set b = decodeUint32Set.go b := by
  unfold decodeUint32Set
  split
  · exact absurd rfl h
  · rfl

theorem chunks4_rt : ∀ (b : Bytes), b.length % 4 = 0 →
    (chunks4 b).flatten = b ∧ ∀ a ∈ chunks4 b, a.length = 4
  | [], _ => ⟨rfl, by simp [chunks4]⟩
  | a :: b :: c :: d :: rest, h => by
    have h' : rest.length % 4 = 0 := by simp only [List.length_cons] at h; omega
    obtain ⟨h1, h2⟩ := chunks4_rt rest h'
    simp only [chunks4, List.flatten_cons, h1, List.mem_cons]
    refine ⟨rfl, ?_⟩
    intro x hx
    rcases hx with rfl | hx
    · rfl
    · exact h2 x hx

theorem exists_cons12 {α} (b : List α) (h : 12 ≤ b.length) :
    ∃ a1 a2 a3 a4 a5 a6 a7 a8 a9 a10 a11 a12 rest,
      b = a1 :: a2 :: a3 :: a4 :: a5 :: a6 :: a7 :: a8 :: a9 :: a10 :: a11 :: a12 :: rest := by
  rcases b with _ | ⟨a1, _ | ⟨a2, _ | ⟨a3, _ | ⟨a4, _ | ⟨a5, _ | ⟨a6, _ | ⟨a7, _ | ⟨a8, _ | ⟨a9, _ | ⟨a10, _ | ⟨a11, _ | ⟨a12, rest⟩⟩⟩⟩⟩⟩⟩⟩⟩⟩⟩⟩
  all_goals first
    | exact ⟨_, _, _, _, _, _, _, _, _, _, _, _, _, rfl⟩
    | (simp only [List.length_cons, List.length_nil] at h; omega)

def lcWire (x : UInt32 × UInt32 × UInt32) : Bytes :=
  be32Bytes x.1 ++ be32Bytes x.2.1 ++ be32Bytes x.2.2

theorem largeComms_rt : ∀ (n : Nat) (b : Bytes), b.length = 12 * n →
    ((largeComms b).map lcWire).flatten = b := by
  intro n
  induction n with
  | zero =>
    intro b h
    have : b = [] := List.eq_nil_of_length_eq_zero (by omega)
    subst this; rfl
  | succ n ih =>
    intro b h
    obtain ⟨a1, a2, a3, a4, a5, a6, a7, a8, a9, a10, a11, a12, rest, rfl⟩ := exists_cons12 b (by omega)
    have h' : rest.length = 12 * n := by simp only [List.length_cons] at h; omega
    simp only [largeComms, List.map_cons, List.flatten_cons, ih rest h', lcWire, be32Bytes_be32]
    rfl

theorem u32set_go_words : ∀ (b : Bytes) (l : List UInt32), decodeUint32Set.go b = some l →
    l.map (·.toNat) = Spec.asPathSegs.words b
  | [], l, h => by
    simp only [decodeUint32Set.go, Option.some.injEq] at h
    subst h; rfl
  | a :: b :: c :: d :: rest, l, h => by
    simp only [decodeUint32Set.go, Option.map_eq_some_iff] at h
    obtain ⟨l', hl', rfl⟩ := h
    simp only [List.map_cons, Spec.asPathSegs.words, be32_toNat, u32set_go_words rest l' hl']

theorem asPathSegs_len : ∀ (sfuel : Nat) (b : Bytes) (segs : List (UInt8 × List Nat)),
    Spec.asPathSegs sfuel b = some segs → b.length % 2 = 0 ∧ (b.length = 0 ∨ 6 ≤ b.length) := by
  intro sfuel
  induction sfuel with
  | zero =>
    intro b segs h
    cases b with
    | nil => simp
    | cons a b => simp [Spec.asPathSegs] at h
  | succ sfuel ih =>
    intro b segs h
    match b, h with
    | [], _ => simp
    | t :: n :: rest, h =>
      simp only [Spec.asPathSegs] at h
      split at h
      · simp at h
      · rename_i hc
        simp only [Option.map_eq_some_iff] at h
        obtain ⟨segs', hs, _⟩ := h
        have := ih _ _ hs
        have hn : n.toNat ≠ 0 := by
          intro h0
          apply hc
          right; left
          apply UInt8.toNat_inj.mp
          simpa using h0
        simp only [List.length_drop, List.length_cons] at this ⊢
        omega

def asPathRel (acc p : ASPath) (segs : List (UInt8 × List Nat)) : Prop :=
  p.asSet.map (·.toNat) = acc.asSet.map (·.toNat) ++ (segs.filter (·.1 = 1)).flatMap (·.2) ∧
  p.asSequence.map (·.toNat) = acc.asSequence.map (·.toNat) ++ (segs.filter (·.1 = 2)).flatMap (·.2)

def asPathErr (e : Err) : Prop := ∃ n, e = .taw 2 (some n) ∧ n.code = 3 ∧ (n.sub = 5 ∨ n.sub = 11)

theorem asPathErr_malformed : asPathErr asPathMalformed := ⟨_, rfl, rfl, Or.inr rfl⟩

theorem asPathErr_len (b : Bytes) : asPathErr (.taw Gen.PATH_ATTR_AS_PATH (some (attrLenBad Gen.PATH_ATTR_AS_PATH b))) :=
  ⟨_, rfl, rfl, Or.inl rfl⟩

def LoopOK (sp : Option (List (UInt8 × List Nat))) (acc : ASPath) : Except Err ASPath → Prop
  | .ok p => ∃ segs, sp = some segs ∧ asPathRel acc p segs
  | .error e => sp = none ∧ asPathErr e

/-- `decodeASPathLoop` files a segment under its type -/
def addSeg (t : UInt8) (l : List UInt32) (acc : ASPath) : ASPath :=
  if t = 1 then { acc with asSet := acc.asSet ++ l } else { acc with asSequence := acc.asSequence ++ l }

theorem LoopOK.cons {t : UInt8} (ht : t = 1 ∨ t = 2) {l : List UInt32} {sp acc r}
    (h : LoopOK sp (addSeg t l acc) r) : LoopOK (sp.map ((t, l.map (·.toNat)) :: ·)) acc r := by
  cases r with
  | error e => exact ⟨by rw [h.1]; rfl, h.2⟩
  | ok p =>
    obtain ⟨segs, rfl, h1, h2⟩ := h
    refine ⟨_, rfl, ?_, ?_⟩ <;> rcases ht with rfl | rfl <;> simp_all [addSeg]

/-- one segment of the reference grammar, in the order the code checks it -/
theorem asPathSegs_cons (sfuel : Nat) (t n : UInt8) (rest : Bytes) :
    Spec.asPathSegs (sfuel + 1) (t :: n :: rest) =
      if n.toNat * 4 = 0 ∨ rest.length < n.toNat * 4 ∨ ¬ (t = 1 ∨ t = 2) then none
      else (Spec.asPathSegs sfuel (rest.drop (n.toNat * 4))).map
        ((t, Spec.asPathSegs.words (rest.take (n.toNat * 4))) :: ·) := by
  have h0 : n = 0 ↔ n.toNat * 4 = 0 := by
    rw [← UInt8.toNat_inj]; simp; omega
  simp only [Spec.asPathSegs, h0, Nat.mul_comm 4]
  congr 1
  by_cases h1 : t = 1 <;> by_cases h2 : t = 2 <;> simp [h1, h2]

theorem asPathLoop_spec : ∀ (fuel : Nat) (b : Bytes) (acc : ASPath) (sfuel : Nat),
    b.length < fuel → b.length ≤ sfuel →
    LoopOK (Spec.asPathSegs sfuel b) acc (decodeASPathLoop fuel b acc) := by
  intro fuel
  induction fuel with
  | zero => intro b acc sfuel h; omega
  | succ fuel ih =>
    intro b acc sfuel hf hs
    unfold decodeASPathLoop
    by_cases h0 : b.length = 0
    · cases List.eq_nil_of_length_eq_zero h0
      exact ⟨[], by cases sfuel <;> rfl, by simp [asPathRel]⟩
    rw [if_neg h0]
    by_cases h6 : b.length < 6 ∨ b.length % 2 ≠ 0
    · rw [if_pos h6]
      refine ⟨?_, asPathErr_len b⟩
      cases hsp : Spec.asPathSegs sfuel b with
      | none => rfl
      | some segs => have := asPathSegs_len _ _ _ hsp; omega
    rw [if_neg h6]
    match b, sfuel, hf, hs, h0, h6 with
    | [_], _, _, _, _, h6 => simp at h6
    | t :: n :: rest, sfuel + 1, hf, hs, _, _ =>
      simp only [List.length_cons] at hf hs
      have bad : (n.toNat * 4 = 0 ∨ rest.length < n.toNat * 4 ∨ ¬ (t = 1 ∨ t = 2)) →
          LoopOK (Spec.asPathSegs (sfuel + 1) (t :: n :: rest)) acc (.error asPathMalformed) :=
        fun hc => ⟨by rw [asPathSegs_cons, if_pos hc], asPathErr_malformed⟩
      simp only
      by_cases hn : n.toNat * 4 = 0
      · rw [if_pos hn]; exact bad (.inl hn)
      rw [if_neg hn]
      by_cases hr : rest.length < n.toNat * 4
      · rw [if_pos hr]; exact bad (.inr (.inl hr))
      rw [if_neg hr]
      have hlt : (rest.take (n.toNat * 4)).length = n.toNat * 4 := List.length_take_of_le (by omega)
      obtain ⟨l, hl, _⟩ := u32set_go_rt _ (by omega : (rest.take (n.toNat * 4)).length % 4 = 0)
      rw [u32set_eq_go _ (by intro h; rw [h] at hlt; simp at hlt; omega), hl]
      simp only
      by_cases ht : t = 1 ∨ t = 2
      · rw [asPathSegs_cons, if_neg (by simp [hn, hr, ht]), ← u32set_go_words _ _ hl]
        have := (ih (rest.drop (n.toNat * 4)) (addSeg t l acc) sfuel
          (by rw [List.length_drop]; omega) (by rw [List.length_drop]; omega)).cons ht
        -- once `t` is a literal the two `if segType = …` and `addSeg` compute away
        rcases ht with rfl | rfl <;> exact this
      · have h1 : t ≠ 1 := fun h => ht (.inl h)
        have h2 : t ≠ 2 := fun h => ht (.inr h)
        rw [if_neg h1, if_neg h2]; exact bad (.inr (.inr ht))

theorem mpReach_eq (flags : UInt8) (b : Bytes) (fn : MPReachArgs → Option Err) :
    mpReach flags b fn = .ok
      (match Spec.splitMPReach b with
       | some (afi, safi, nh, nlri) =>
         (some ⟨UInt16.ofNat afi, safi, nh, nlri⟩,
          joinErr (validateFlags flags 14 b true false) (fn ⟨UInt16.ofNat afi, safi, nh, nlri⟩))
       | none => (none, joinErr (validateFlags flags 14 b true false) (some (.notif ⟨3, 5, []⟩)))) := by
  unfold mpReach Spec.splitMPReach
  match b with
  | [] | [_] | [_, _] | [_, _, _] | [_, _, _, _] => rfl
  | a1 :: a2 :: safi :: nhLen :: r :: rest =>
    simp only
    by_cases h : (r :: rest).length < nhLen.toNat + 1
    · rw [if_pos h, if_pos h]
      rfl
    · rw [if_neg h, if_neg h, slice?_eq (Nat.zero_le _) (by omega), sliceFrom?_eq (by omega)]
      rfl

theorem mpReach_no_panic (flags : UInt8) (b : Bytes) (fn : MPReachArgs → Option Err) :
    mpReach flags b fn ≠ .panic := by
  rw [mpReach_eq]; exact fun h => nomatch h

def addrBits (ipv6 : Bool) : Nat := if ipv6 then 128 else 32

/-- `pad` of `Props/C19.lean`, restated on the components -/
def padPfx (ipv6 : Bool) (bits : Nat) (addr : Bytes) : Prefix :=
  ⟨UInt8.ofNat bits, addr ++ List.replicate ((if ipv6 then 16 else 4) - addr.length) 0⟩

theorem octets_toNat (bl : UInt8) (h : bl.toNat ≤ 128) : ((bl + 7) / 8).toNat = (bl.toNat + 7) / 8 := by
  rw [UInt8.toNat_div, UInt8.toNat_add]
  have h7 : (7 : UInt8).toNat = 7 := rfl
  have h8 : (8 : UInt8).toNat = 8 := rfl
  rw [h7, h8]
  omega

theorem decodePrefix_cons (ipv6 : Bool) (l : UInt8) (r : Bytes) :
    decodePrefix (l :: r) ipv6 =
      if l.toNat > addrBits ipv6 ∨ r.length < (l.toNat + 7) / 8 then none
      else some (padPfx ipv6 l.toNat (r.take ((l.toNat + 7) / 8)), r.drop ((l.toNat + 7) / 8)) := by
  have hb : ((!ipv6 && decide (l > 32)) || (ipv6 && decide (l > 128))) = decide (l.toNat > addrBits ipv6) := by
    cases ipv6 <;> simp [addrBits, UInt8.lt_iff_toNat_lt]
  have hw : addrBits ipv6 = 8 * (if ipv6 then 16 else 4) ∧ addrBits ipv6 ≤ 128 := by cases ipv6 <;> decide
  simp only [decodePrefix, hb, decide_eq_true_eq, padPfx]
  generalize (if ipv6 = true then 16 else 4) = w at hw ⊢
  by_cases h : l.toNat > addrBits ipv6
  · rw [if_pos h, if_pos (.inl h)]
  · rw [if_neg h, octets_toNat l (by omega)]
    by_cases hr : r.length < (l.toNat + 7) / 8
    · rw [if_pos hr, if_pos (.inr hr)]
    · rw [if_neg hr, if_neg (by omega), if_neg (by omega), UInt8.ofNat_toNat,
        List.length_take_of_le (Nat.le_of_not_lt hr)]

theorem prefixesLoop_spec (ipv6 : Bool) : ∀ (fuel : Nat) (b : Bytes) (acc : List Prefix) (sfuel : Nat),
    b.length < fuel → b.length ≤ sfuel →
    decodePrefixesLoop fuel b ipv6 acc =
      (Spec.parsePfxs (addrBits ipv6) false sfuel b).map
        (fun ps => acc ++ ps.map (fun q => padPfx ipv6 q.bits q.addr)) := by
  intro fuel
  induction fuel with
  | zero => intro b acc sfuel h; omega
  | succ fuel ih =>
    intro b acc sfuel hf hs
    unfold decodePrefixesLoop
    match b, hf, hs with
    | [], _, _ => simp [Spec.parsePfxs]
    | l :: r, hf, hs =>
      match sfuel, hs with
      | sfuel + 1, hs =>
        simp only [List.length_cons] at hf hs
        rw [if_neg (by simp), decodePrefix_cons]
        simp only [Spec.parsePfxs]
        by_cases hc : l.toNat > addrBits ipv6 ∨ r.length < (l.toNat + 7) / 8
        · rw [if_pos hc]
          simp [hc]
        · rw [if_neg hc]
          simp only [Bool.false_eq_true, if_false, hc]
          rw [ih _ _ sfuel (by rw [List.length_drop]; omega) (by rw [List.length_drop]; omega)]
          cases Spec.parsePfxs (addrBits ipv6) false sfuel (List.drop ((l.toNat + 7) / 8) r) with
          | none => rfl
          | some ps => simp

theorem addPathLoop_spec (ipv6 : Bool) : ∀ (fuel : Nat) (b : Bytes) (acc : List AddPathPrefix) (sfuel : Nat),
    b.length < fuel → b.length ≤ sfuel →
    decodeAddPathPrefixesLoop fuel b ipv6 acc =
      (Spec.parsePfxs (addrBits ipv6) true sfuel b).map
        (fun ps => acc ++ ps.map (fun q => ⟨UInt32.ofNat (q.id.getD 0), padPfx ipv6 q.bits q.addr⟩)) := by
  intro fuel
  induction fuel with
  | zero => intro b acc sfuel h; omega
  | succ fuel ih =>
    intro b acc sfuel hf hs
    unfold decodeAddPathPrefixesLoop
    match sfuel, b, hf, hs with
    | _, [], _, _ => simp [Spec.parsePfxs]
    | sfuel + 1, [_], _, _ | sfuel + 1, [_, _], _, _ | sfuel + 1, [_, _, _], _, _ | sfuel + 1, [_, _, _, _], _, _ =>
      simp [Spec.parsePfxs]
    | sfuel + 1, a :: b1 :: c :: d :: l :: r, hf, hs =>
        simp only [List.length_cons] at hf hs
        rw [if_neg (by simp)]
        simp only [decodePrefix_cons]
        simp only [Spec.parsePfxs]
        by_cases hc : l.toNat > addrBits ipv6 ∨ r.length < (l.toNat + 7) / 8
        · rw [if_pos hc]
          simp [hc]
        · rw [if_neg hc]
          simp only [if_true, hc, if_false]
          rw [ih _ _ sfuel (by rw [List.length_drop]; omega) (by rw [List.length_drop]; omega)]
          cases Spec.parsePfxs (addrBits ipv6) true sfuel (List.drop ((l.toNat + 7) / 8) r) with
          | none => rfl
          | some ps =>
            simp only [Option.map_some, List.map_cons, Option.getD_some, List.append_assoc,
              List.singleton_append, be32, Spec.n32]

/-- `Spec.WellFormedPfx` of a literal triple, stated with the projections of `⟨id, bits, addr⟩` reduced, so that
`omega` sees `bits` and `addr.length` in the side goals -/
theorem wf_mk (mb : Nat) (addPath : Bool) (id : Option Nat) (bits : Nat) (addr : Bytes)
    (h1 : bits ≤ mb) (h2 : addr.length = (bits + 7) / 8) (h3 : id.isSome = addPath)
    (h4 : ∀ i, id = some i → i < 4294967296) : Spec.WellFormedPfx mb addPath ⟨id, bits, addr⟩ :=
  ⟨h1, h2, h3, h4⟩

/-- the identifier of one entry, as `Spec.parsePfxs` splits it off -/
def idPart (addPath : Bool) (b : Bytes) : Option (Option Nat × Bytes) :=
  if addPath then
    match b with
    | a :: b1 :: c :: d :: r => some (some (Spec.n32 a b1 c d), r)
    | _ => none
  else some (none, b)

def idWire : Option Nat → Bytes
  | some i => Spec.u32 i
  | none => []

theorem parsePfxs_succ (mb : Nat) (addPath : Bool) (fuel : Nat) {b : Bytes} (hb : b ≠ []) :
    Spec.parsePfxs mb addPath (fuel + 1) b =
      match idPart addPath b with
      | none => none
      | some (id, r) =>
        match r with
        | [] => none
        | l :: r' =>
          if l.toNat > mb ∨ r'.length < (l.toNat + 7) / 8 then none
          else (Spec.parsePfxs mb addPath fuel (r'.drop ((l.toNat + 7) / 8))).map
            (⟨id, l.toNat, r'.take ((l.toNat + 7) / 8)⟩ :: ·) := by
  cases b with
  | nil => exact absurd rfl hb
  | cons x xs => rfl

theorem idPart_some {addPath : Bool} {b r : Bytes} {id : Option Nat} (h : idPart addPath b = some (id, r)) :
    idWire id ++ r = b ∧ id.isSome = addPath ∧ ∀ i, id = some i → i < 4294967296 := by
  cases addPath with
  | false => cases h; exact ⟨rfl, rfl, fun _ h => nomatch h⟩
  | true =>
    match b, h with
    | a :: b1 :: c :: d :: r, h =>
      cases h
      exact ⟨by simp only [idWire, u32_n32]; rfl, rfl, fun i hi => by cases hi; exact n32_lt _ _ _ _⟩

theorem idPart_wire {addPath : Bool} {id : Option Nat} (r : Bytes) (h1 : id.isSome = addPath)
    (h2 : ∀ i, id = some i → i < 4294967296) : idPart addPath (idWire id ++ r) = some (id, r) := by
  cases id with
  | none => cases h1; rfl
  | some i =>
    cases h1
    simp only [idPart, idWire, Spec.u32, List.cons_append, List.nil_append, n32_u32 i (h2 i rfl), Option.isSome_some,
      if_true]

theorem parsePfxs_tr (mb : Nat) (addPath : Bool) : ∀ (sfuel : Nat) (b : Bytes) (ps : List Spec.Pfx),
    Spec.parsePfxs mb addPath sfuel b = some ps →
    (ps.map Spec.pfxWire).flatten = b ∧ ∀ p ∈ ps, Spec.WellFormedPfx mb addPath p := by
  intro sfuel
  induction sfuel with
  | zero =>
    intro b ps h
    cases b with
    | nil => cases h; simp
    | cons x xs => cases h
  | succ sfuel ih =>
    intro b ps h
    cases b with
    | nil => cases h; simp
    | cons x xs =>
      rw [parsePfxs_succ _ _ _ (List.cons_ne_nil _ _)] at h
      cases hid : idPart addPath (x :: xs) with
      | none => rw [hid] at h; cases h
      | some t =>
        obtain ⟨id, r⟩ := t
        obtain ⟨hw, hsome, hlt⟩ := idPart_some hid
        rw [hid] at h
        cases r with
        | nil => cases h
        | cons l r' =>
          simp only at h
          split at h
          · cases h
          next hc =>
            obtain ⟨ps', hps', rfl⟩ := Option.map_eq_some_iff.1 h
            obtain ⟨h1, h2⟩ := ih _ _ hps'
            refine ⟨?_, ?_⟩
            · rw [← hw]
              simp only [List.map_cons, List.flatten_cons, h1, Spec.pfxWire, UInt8.ofNat_toNat, List.append_assoc,
                List.take_append_drop]
              rfl
            · intro p hp
              rcases List.mem_cons.mp hp with rfl | hp
              · exact wf_mk _ _ _ _ _ (by omega) (List.length_take_of_le (by omega)) hsome hlt
              · exact h2 p hp

theorem parsePfxs_rt (mb : Nat) (hmb : mb ≤ 128) (addPath : Bool) : ∀ (ps : List Spec.Pfx) (sfuel : Nat),
    (∀ p ∈ ps, Spec.WellFormedPfx mb addPath p) →
    (ps.map Spec.pfxWire).flatten.length ≤ sfuel →
    Spec.parsePfxs mb addPath sfuel (ps.map Spec.pfxWire).flatten = some ps := by
  intro ps
  induction ps with
  | nil => intro sfuel _ _; cases sfuel <;> rfl
  | cons p ps ih =>
    intro sfuel hwf hs
    obtain ⟨id, bits, addr⟩ := p
    obtain ⟨hb, ha, hid, hlt⟩ := hwf _ (List.mem_cons_self)
    simp only at hb ha hid hlt
    have hbits : (UInt8.ofNat bits).toNat = bits :=
      UInt8.toNat_ofNat_of_lt' (Nat.lt_of_le_of_lt (Nat.le_trans hb hmb) (by decide))
    have hw : ((⟨id, bits, addr⟩ :: ps).map Spec.pfxWire).flatten =
        idWire id ++ (UInt8.ofNat bits :: (addr ++ (ps.map Spec.pfxWire).flatten)) := by
      simp only [List.map_cons, List.flatten_cons, Spec.pfxWire, List.append_assoc]
      rfl
    rw [hw] at hs ⊢
    simp only [List.length_append, List.length_cons] at hs
    match sfuel, hs with
    | sfuel + 1, hs =>
      rw [parsePfxs_succ _ _ _ (by simp), idPart_wire _ hid hlt]
      simp only [hbits]
      rw [if_neg (by simp only [List.length_append]; omega), ← ha, List.drop_left, List.take_left,
        ih sfuel (fun p hp => hwf p (List.mem_cons_of_mem _ hp)) (by omega)]
      rfl

end CoreBGP.Lemmas
