import CoreBGP.Model.Session
import CoreBGP.Model.Timed
import CoreBGP.Spec.Wire
import CoreBGP.Lemmas.Reader
/-! The L1 session models: the OPEN-accepted step of the timed model in `min` form, and what one step of
`react` can put on the wire (`react_sends`). -/
namespace CoreBGP.Lemmas
open CoreBGP CoreBGP.Model

theorem tstep_openAccepted (s : TSess) (rh : Nat) :
    tstep s (.openAccepted rh) =
      if s.phase ≠ .openSent then none
      else if min s.localHold rh ≠ 0 then
        some ({ s with phase := .openConfirm, hold := min s.localHold rh,
                       kaDl := some (s.now + kaInterval (min s.localHold rh)),
                       holdDl := some (s.now + min s.localHold rh * secNs),
                       lastRecv := s.now, lastSent := s.now }, .sentKeepalive)
      else
        some ({ s with phase := .openConfirm, hold := 0, kaDl := none, holdDl := none,
                       lastRecv := s.now, lastSent := s.now }, .sentKeepalive) := by
  have hm : (if s.localHold < rh then s.localHold else rh) = min s.localHold rh := by
    simp only [Nat.min_def]; split <;> split <;> omega
  simp only [tstep, hm]

theorem mem_teardown {b : Bytes} {est : Bool} {n : Option Notif} {next : St} {err : Option ErrK}
    (h : Act.send b ∈ teardown est n next err) : ∃ m, n = some m ∧ b = encodeNotif m := by
  unfold teardown at h
  cases n with
  | none => cases est <;> simp at h
  | some m =>
    refine ⟨m, rfl, ?_⟩
    cases est <;> simpa using h

theorem mem_onReaderErr {b : Bytes} {est : Bool} {io : St} {e : RErr}
    (h : Act.send b ∈ onReaderErr est io e) : ∃ n, e = .notif n true ∧ b = encodeNotif n := by
  cases e with
  | notif n out =>
    cases out with
    | true =>
      obtain ⟨m, hm, hb⟩ := mem_teardown (by simpa [onReaderErr] using h)
      cases hm
      exact ⟨_, rfl, hb⟩
    | false =>
      obtain ⟨m, hm, _⟩ := mem_teardown (by simpa [onReaderErr] using h)
      cases hm
  | eof => obtain ⟨m, hm, _⟩ := mem_teardown (by simpa [onReaderErr] using h); cases hm
  | other => obtain ⟨m, hm, _⟩ := mem_teardown (by simpa [onReaderErr] using h); cases hm
  | panic => obtain ⟨m, hm, _⟩ := mem_teardown (by simpa [onReaderErr] using h); cases hm

/-- what a session can write. The three ways a NOTIFICATION comes about are the three hypotheses of
`C04.session_writes_wf`; 6 is the longest data the FSM builds itself (`validateOpen_data_small`) -/
def SentBy (inp : Input) (ret : Option Notif) (b : Bytes) : Prop :=
  b = kaBytes ∨ (∃ body, inp = .writeUpdate body ∧ b = updateBytes body) ∨
  ∃ n, b = encodeNotif n ∧ (n.data.length ≤ 6 ∨ ret = some n ∨ ∃ out, inp = .readerErr (.notif n out))

theorem SentBy.notif_small {inp ret b} {n : Option Notif} {est next err}
    (h : Act.send b ∈ teardown est n next err) (hs : ∀ m, n = some m → m.data.length ≤ 6) :
    SentBy inp ret b := by
  obtain ⟨m, hm, hb⟩ := mem_teardown h
  exact .inr (.inr ⟨m, hb, .inl (hs m hm)⟩)

theorem SentBy.readerErr {ret b est io e}
    (h : Act.send b ∈ onReaderErr est io e) : SentBy (.readerErr e) ret b := by
  obtain ⟨m, hm, hb⟩ := mem_onReaderErr h
  exact .inr (.inr ⟨m, hb, .inr (.inr ⟨true, by rw [hm]⟩)⟩)

theorem SentBy.ret {inp b n est next err}
    (h : Act.send b ∈ teardown est (some n) next err) : SentBy inp (some n) b := by
  obtain ⟨m, hm, hb⟩ := mem_teardown h
  cases hm
  exact .inr (.inr ⟨_, hb, .inr (.inl rfl)⟩)

theorem react_sends (cfg : SessCfg) (ph : Phase) (inp : Input) (ret : Option Notif) (b : Bytes)
    (h : Act.send b ∈ (react cfg ph inp ret).2) : SentBy inp ret b := by
  cases ph with
  | closed => simp [react] at h
  | openSent =>
    cases inp with
    | closeReq => exact SentBy.notif_small (n := some ceaseNotif) h (by intro m hm; cases hm; simp [ceaseNotif])
    | holdExpired => exact SentBy.notif_small (n := some holdExpiredNotif) h (by intro m hm; cases hm; simp [holdExpiredNotif])
    | readerErr e => exact SentBy.readerErr h
    | kaTimer => simp [react] at h
    | writeUpdate x => simp [react] at h
    | msg m =>
      cases m with
      | notif n => exact SentBy.notif_small (n := none) h (by intro m hm; cases hm)
      | update x => exact SentBy.notif_small (n := some _) h (by intro m hm; cases hm; simp [fsmErr])
      | keepalive => exact SentBy.notif_small (n := some _) h (by intro m hm; cases hm; simp [fsmErr])
      | open_ o =>
        simp only [react] at h
        split at h
        · rename_i n hv
          exact SentBy.notif_small (n := some n) h (by intro m hm; cases hm; exact validateOpen_data_small _ _ _ _ _ hv)
        · cases ret with
          | some n =>
            simp only [List.mem_append, List.mem_singleton] at h
            rcases h with h | h
            · cases h
            · exact SentBy.ret h
          | none =>
            simp at h
            exact .inl h
  | openConfirm =>
    cases inp with
    | closeReq => exact SentBy.notif_small (n := some ceaseNotif) h (by intro m hm; cases hm; simp [ceaseNotif])
    | holdExpired => exact SentBy.notif_small (n := some holdExpiredNotif) h (by intro m hm; cases hm; simp [holdExpiredNotif])
    | readerErr e => exact SentBy.readerErr h
    | kaTimer => simp [react] at h; exact .inl h
    | writeUpdate x => simp [react] at h
    | msg m =>
      cases m with
      | notif n => exact SentBy.notif_small (n := none) h (by intro m hm; cases hm)
      | update x => exact SentBy.notif_small (n := some _) h (by intro m hm; cases hm; simp [fsmErr])
      | keepalive => simp [react] at h
      | open_ o => exact SentBy.notif_small (n := some _) h (by intro m hm; cases hm; simp [fsmErr])
  | established =>
    cases inp with
    | closeReq => exact SentBy.notif_small (n := some ceaseNotif) h (by intro m hm; cases hm; simp [ceaseNotif])
    | holdExpired => exact SentBy.notif_small (n := some holdExpiredNotif) h (by intro m hm; cases hm; simp [holdExpiredNotif])
    | readerErr e => exact SentBy.readerErr h
    | kaTimer => simp [react] at h; exact .inl h
    | writeUpdate x => simp [react] at h; exact .inr (.inl ⟨x, rfl, h⟩)
    | msg m =>
      cases m with
      | notif n => exact SentBy.notif_small (n := none) h (by intro m hm; cases hm)
      | update x =>
        cases ret with
        | some n =>
          simp only [react, List.mem_append, List.mem_singleton] at h
          rcases h with h | h
          · cases h
          · exact SentBy.ret h
        | none => simp [react] at h
      | keepalive => simp [react] at h
      | open_ o => exact SentBy.notif_small (n := some _) h (by intro m hm; cases hm; simp [fsmErr])

theorem updateBytes_ne_kaBytes (b : Bytes) : updateBytes b ≠ kaBytes := by
  intro h
  have := congrArg (fun l => l.getD 18 0) h
  simp [updateBytes, kaBytes, prependHeader, be16Bytes, Gen.updateMessageType, Gen.keepAliveMessageType] at this

end CoreBGP.Lemmas
