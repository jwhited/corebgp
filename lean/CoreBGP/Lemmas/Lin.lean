import CoreBGP.Spec.Lin
/-!
# Helper lemmas for `Props.C20Lin`: `picks`, `minimal`, the recursion `Linearizable` shares with `lin`,
and the search against it
-/
namespace CoreBGP.Lemmas.Lin
open CoreBGP.Spec.Lin

variable {σ ο ρ : Type}

theorem picks_perm : ∀ (l : List (Ev ο ρ)) (p : Ev ο ρ × List (Ev ο ρ)), p ∈ picks l → (p.1 :: p.2).Perm l
  | [], p, hp => by simp [picks] at hp
  | e :: es, p, hp => by
    simp only [picks, List.mem_cons, List.mem_map] at hp
    rcases hp with rfl | ⟨q, hq, rfl⟩
    · exact List.Perm.refl _
    · exact (List.Perm.swap e q.1 q.2).trans ((picks_perm es q hq).cons e)

theorem picks_split (e : Ev ο ρ) (b : List (Ev ο ρ)) :
    ∀ a : List (Ev ο ρ), (e, a ++ b) ∈ picks (a ++ e :: b)
  | [] => List.mem_cons_self
  | _ :: a => List.mem_cons_of_mem _ (List.mem_map.2 ⟨(e, a ++ b), picks_split e b a, rfl⟩)

theorem picks_of_perm {e : Ev ο ρ} {l' h : List (Ev ο ρ)} (hp : (e :: l').Perm h) :
    ∃ p ∈ picks h, p.1 = e ∧ l'.Perm p.2 := by
  obtain ⟨a, b, rfl⟩ := List.append_of_mem (hp.subset List.mem_cons_self)
  exact ⟨(e, a ++ b), picks_split e b a, rfl, (hp.trans List.perm_middle).cons_inv⟩

theorem minimal_iff (e : Ev ο ρ) (rem : List (Ev ο ρ)) :
    minimal e rem = true ↔ ∀ x ∈ rem, ¬ x.ret < e.inv := by
  simp [minimal]

theorem linearizable_iff (step : σ → ο → σ × ρ) (s : σ) (h : List (Ev ο ρ)) :
    Linearizable step s h ↔ h = [] ∨ ∃ p ∈ picks h, minimal p.1 p.2 = true ∧ (step s p.1.op).2 = p.1.res ∧
      Linearizable step (step s p.1.op).1 p.2 := by
  constructor
  · rintro ⟨l, hp, hrt, hseq⟩
    cases l with
    | nil => exact .inl hp.symm.eq_nil
    | cons e l' =>
      obtain ⟨p, hpk, rfl, hpr⟩ := picks_of_perm hp
      obtain ⟨hmin, hrt'⟩ := List.pairwise_cons.1 hrt
      exact .inr ⟨p, hpk, (minimal_iff ..).2 fun x hx => hmin x (hpr.symm.subset hx), hseq.1, l', hpr, hrt', hseq.2⟩
  · rintro (rfl | ⟨p, hpk, hmin, hres, l', hperm, hrt, hseq⟩)
    · exact ⟨[], .refl _, .nil, trivial⟩
    · exact ⟨p.1 :: l', (hperm.cons p.1).trans (picks_perm _ p hpk),
        .cons (fun x hx => (minimal_iff ..).1 hmin x (hperm.subset hx)) hrt, hres, hseq⟩

section
variable [DecidableEq ρ]

theorem lin_zero_cons (step : σ → ο → σ × ρ) (s : σ) (e : Ev ο ρ) (es : List (Ev ο ρ)) :
    lin step 0 s (e :: es) = false := rfl

theorem lin_nil (step : σ → ο → σ × ρ) (n : Nat) (s : σ) : lin step n s [] = true := by
  cases n <;> rfl

theorem lin_succ_cons (step : σ → ο → σ × ρ) (n : Nat) (s : σ) (e : Ev ο ρ) (es : List (Ev ο ρ)) :
    lin step (n + 1) s (e :: es) =
      (picks (e :: es)).any fun p =>
        minimal p.1 p.2 && decide ((step s p.1.op).2 = p.1.res) && lin step n (step s p.1.op).1 p.2 := rfl

theorem lin_spec (step : σ → ο → σ × ρ) : ∀ (n : Nat) (s : σ) (h : List (Ev ο ρ)),
    (lin step n s h = true → Linearizable step s h) ∧
    (h.length ≤ n → Linearizable step s h → lin step n s h = true)
  | n, s, [] => ⟨fun _ => (linearizable_iff ..).2 (.inl rfl), fun _ _ => lin_nil step n s⟩
  | 0, s, e :: es => ⟨nofun, fun hn => nomatch hn⟩
  | n + 1, s, e :: es => by
    rw [linearizable_iff, lin_succ_cons]
    simp only [List.any_eq_true, Bool.and_eq_true, decide_eq_true_eq, reduceCtorEq, false_or, and_assoc]
    constructor
    · rintro ⟨p, hp, hmin, hres, hrec⟩
      exact ⟨p, hp, hmin, hres, (lin_spec step n _ p.2).1 hrec⟩
    · rintro hn ⟨p, hp, hmin, hres, hrec⟩
      have hlen : p.2.length + 1 = es.length + 1 := (picks_perm _ p hp).length_eq
      exact ⟨p, hp, hmin, hres, (lin_spec step n _ p.2).2 (by simp at hn; omega) hrec⟩
end

end CoreBGP.Lemmas.Lin
