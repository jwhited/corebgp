/-! Association lists (`List (α × β)` looked up with `find? (·.1 = k)`), as the registry models use them. -/
namespace CoreBGP.Lemmas.Assoc

variable {α β : Type} [DecidableEq α]

theorem find_append_new (ps : List (α × β)) (k x : α) (v : β) (hk : ps.find? (·.1 = k) = none) :
    ((ps ++ [(k, v)]).find? (·.1 = x)).map (·.2) =
      if x = k then some v else (ps.find? (·.1 = x)).map (·.2) := by
  rw [List.find?_append]
  by_cases hx : x = k
  · simp [hx, hk]
  · have : ¬ k = x := fun e => hx e.symm
    simp [hx, this]

theorem find_filter_ne (ps : List (α × β)) (k x : α) :
    (ps.filter (·.1 ≠ k)).find? (·.1 = x) = if x = k then none else ps.find? (·.1 = x) := by
  rw [List.find?_filter]
  split
  · next hx => simp [hx]
  · next hx => congr 1; funext a; by_cases ha : a.1 = x <;> simp [ha, hx]

theorem find_isSome_iff (ps : List (α × β)) (k : α) :
    (ps.find? (·.1 = k)).isSome = true ↔ k ∈ ps.map (·.1) := by
  rw [List.find?_isSome, List.mem_map]
  constructor <;> rintro ⟨p, hp, hk⟩ <;> exact ⟨p, hp, by simpa using hk⟩

theorem find_of_mem_nodup (ps : List (α × β)) (hnd : (ps.map (·.1)).Nodup)
    (p : α × β) (hp : p ∈ ps) : ps.find? (·.1 = p.1) = some p := by
  induction ps with
  | nil => simp at hp
  | cons q qs ih =>
    rw [List.map_cons, List.nodup_cons] at hnd
    rcases List.mem_cons.1 hp with rfl | hq
    · simp
    · have hne : ¬ q.1 = p.1 := fun h => hnd.1 (h ▸ List.mem_map_of_mem (f := (·.1)) hq)
      simpa [List.find?_cons, hne] using ih hnd.2 hq

omit [DecidableEq α] in
theorem nodup_keys_append {ps : List (α × β)} {k : α} (v : β) (h : (ps.map (·.1)).Nodup)
    (hk : ∀ p ∈ ps, p.1 ≠ k) : ((ps ++ [(k, v)]).map (·.1)).Nodup := by
  rw [List.map_append, List.nodup_append]
  refine ⟨h, List.pairwise_singleton _ _, fun a ha b hb => ?_⟩
  obtain ⟨p, hp, rfl⟩ := List.mem_map.1 ha
  rw [List.mem_singleton.1 hb]
  exact hk p hp

end CoreBGP.Lemmas.Assoc
