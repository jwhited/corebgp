import CoreBGP.Model.Peer
import CoreBGP.Lemmas.PeerLocal
/-! The step functions of the L2 peer model characterised: for `pMain`, `pInstr` and `next` an inductive relation with
one constructor per alternative, for `expandHandle` its five results, for `runOutcomes` and `fOnClose` what a step of
one FSM does to the fields the invariants speak of. Proofs about steps go by `cases` on these instead of unfolding the
lists. -/
namespace CoreBGP.Lemmas
open CoreBGP CoreBGP.Model

/-- the alternatives of the manager's main `select` (`pMain`), one constructor per `case` -/
inductive MainStep (s : PState) : Label → PState → Prop
  | stop : s.pclosed = true → MainStep s .tau { s with todo := [.disableLog .out, .disableLog .inn, .finish] }
  | req (i : Dir) (t : Trans) : (s.f i).pc = .req t →
      MainStep s .tau ({ s with todo := [.handle i t] }.setF i { s.f i with pc := .wait t })
  | err (i : Dir) (st d : St) (k : EK) : (s.f i).pc = .errSend st d k →
      MainStep s .tau { s.setF i { s.f i with pc := .req ⟨st, d⟩ } with
        todo := .logErr i :: (if k = .damp then [.disableLog .inn, .disableLog .out, .damp] else []) }
  | timer : s.timerArmed = true →
      MainStep s .logUndamp { s with todo := [.enable .out false], holdDown := false, timerArmed := false }
  | refuse : (s.holdDown || s.presentI || s.stO = .established) = true → MainStep s (.inConn false) s
  | accept : (s.holdDown || s.presentI || s.stO = .established) = false →
      MainStep s (.inConn true) { s with todo := [.enable .inn true] }

theorem MainStep.of_mem {s s' : PState} {l : Label} (h : (l, s') ∈ pMain s) : s.pdone = false ∧ MainStep s l s' := by
  unfold pMain at h
  split at h
  · cases h
  · rename_i hd
    refine ⟨by simpa using hd, ?_⟩
    simp only [List.mem_append, List.mem_flatMap] at h
    rcases h with ((h | ⟨i, -, h⟩) | h) | h <;> split at h <;>
      simp only [List.mem_singleton, Prod.mk.injEq, List.not_mem_nil] at h
    all_goals obtain ⟨rfl, rfl⟩ := h
    · exact .stop ‹_›
    · exact .req i _ ‹_›
    · exact .err i _ _ _ ‹_›
    · exact .timer ‹_›
    · exact .refuse ‹_›
    · exact .accept (Bool.not_eq_true _ ▸ ‹¬ _›)

theorem MainStep.mem {s s' : PState} {l : Label} (hd : s.pdone = false) (h : MainStep s l s') : (l, s') ∈ pMain s := by
  unfold pMain
  rw [if_neg (by simp [hd])]
  simp only [List.mem_append, List.mem_flatMap]
  cases h with
  | stop hc => exact .inl (.inl (.inl (by simp [hc])))
  | req i t hpc => exact .inl (.inl (.inr ⟨i, by cases i <;> simp, by simp [hpc]⟩))
  | err i st d k hpc => exact .inl (.inl (.inr ⟨i, by cases i <;> simp, by simp [hpc]⟩))
  | timer ha => exact .inl (.inr (by simp [ha]))
  | refuse hc => exact .inr (by rw [if_pos hc]; exact List.mem_singleton.2 rfl)
  | accept hc => exact .inr (by rw [if_neg (by simp [hc])]; exact List.mem_singleton.2 rfl)

/-- the ways the manager executes the instruction `ins` with `rest` still to do (`pInstr`). Where an instruction blocks
(`sendT`, `disable`, `collSel`) each constructor is one way the blocking operation completes -/
inductive InstrStep (s : PState) (rest : List Instr) : Instr → Label → PState → Prop
  | logT (i f t) : InstrStep s rest (.logT i f t) (.logT i f t) { s with todo := rest }
  | logErr (i) : InstrStep s rest (.logErr i) (.logErr i) { s with todo := rest }
  | handle (i t) : InstrStep s rest (.handle i t) .tau { s with todo := expandHandle s i t ++ rest }
  | echo (i t t0) : (s.f i).pc = .wait t0 →
      InstrStep s rest (.sendT i t) .tau (({ s with todo := .logT i t.frm t.to :: rest }.setSt i t.to).setF i
        { s.f i with pc := if t.to = St.disabled then FPc.done else FPc.run t.to })
  | sendSkip (i t) : s.pclosed = true → InstrStep s rest (.sendT i t) .tau { s with todo := rest }
  | dlSkip (i) : s.present i = false → InstrStep s rest (.disableLog i) .tau { s with todo := rest }
  | dlLog (i) : s.present i = true →
      InstrStep s rest (.disableLog i) (.logT i (s.st i) .disabled) { s with todo := .disable i :: rest }
  | close (i) : (s.f i).closed = false → InstrStep s rest (.disable i) .tau (s.setF i { s.f i with closed := true })
  | join (i) : (s.f i).pc = .done →
      InstrStep s rest (.disable i) .tau ((({ s with todo := rest }.setPresent i false).setSt i .disabled).setF i {})
  | enableSkip (i w) : (i = .out ∧ s.passive = true) ∨ s.present i = true →
      InstrStep s rest (.enable i w) .tau { s with todo := rest }
  | create (i w) : ¬ (i = .out ∧ s.passive = true) → s.present i = false →
      InstrStep s rest (.enable i w) .tau ((({ s with todo := rest }.setPresent i true).setSt i .disabled).setF i
        { pc := .req ⟨.disabled, if w then .active else .idle⟩, conn := w })
  | collSkip (i t) : s.pclosed = true → InstrStep s rest (.collSel i t) .tau { s with todo := rest }
  | kill (i t) {l o'} : (s.f i.other).pc.listensClose = true → (s.f i.other).closed = false →
      (l, o') ∈ fOnClose i.other (s.f i.other) →
      InstrStep s rest (.collSel i t) l ({ s with todo := .disableLog i.other :: .sendT i t :: rest }.setF i.other o')
  | collRecv (i t ot) : (s.f i.other).pc = .req ot →
      InstrStep s rest (.collSel i t) .tau
        ({ s with todo := (if ot.to = St.established then [Instr.disableLog i, .handle i.other ot]
            else [Instr.sendT i t, .handle i.other ot]) ++ rest }.setF i.other { s.f i.other with pc := .wait ot })
  | damp : InstrStep s rest .damp .logDamp { s with todo := rest, holdDown := true, timerArmed := true }
  | finish : InstrStep s rest .finish .stopped { s with todo := rest, pdone := true, timerArmed := false }

theorem InstrStep.of_mem {s s' : PState} {l : Label} {ins : Instr} {rest : List Instr}
    (h : (l, s') ∈ pInstr s ins rest) : InstrStep s rest ins l s' := by
  cases ins <;> simp only [pInstr, List.mem_append, List.mem_singleton] at h
  case logT => cases h; exact .logT ..
  case logErr => cases h; exact .logErr ..
  case handle => cases h; exact .handle ..
  case damp => cases h; exact .damp
  case finish => cases h; exact .finish
  case sendT i t =>
    rcases h with h | h <;> split at h <;> simp only [List.mem_singleton, List.not_mem_nil] at h <;> cases h
    · exact .echo _ _ _ ‹_›
    · exact .sendSkip _ _ ‹_›
  case disableLog i =>
    split at h <;> simp only [List.mem_singleton] at h <;> cases h
    · exact .dlSkip _ (by simpa using ‹(!_) = true›)
    · exact .dlLog _ (by simpa using ‹¬ (!_) = true›)
  case disable i =>
    rcases h with h | h <;> split at h <;> simp only [List.mem_singleton, List.not_mem_nil] at h <;> cases h
    · exact .close _ (by simpa using ‹(!_) = true›)
    · exact .join _ ‹_›
  case enable i w =>
    split at h <;> simp only [List.mem_singleton] at h <;> cases h
    · exact .enableSkip _ _ ‹_›
    · rename_i hc
      rw [not_or] at hc
      exact .create _ _ hc.1 (by simpa using hc.2)
  case collSel i t =>
    rcases h with (h | h) | h <;> split at h <;> simp only [List.mem_singleton, List.not_mem_nil, List.mem_map] at h
    · cases h; exact .collSkip _ _ ‹_›
    · obtain ⟨⟨l', o'⟩, hm, he⟩ := h
      cases he
      rename_i hc
      simp only [Bool.and_eq_true, Bool.not_eq_true'] at hc
      exact .kill _ _ hc.1 hc.2 hm
    · cases h; exact .collRecv _ _ _ ‹_›

theorem expandHandle_cases (s : PState) (i : Dir) (t : Trans) :
    (t.to = .established ∧ expandHandle s i t = [.disableLog i.other, .sendT i t]) ∨
    (t.to ≠ .established ∧ (
      (i = .inn ∧ t.to.rank < t.frm.rank ∧ expandHandle s i t = [.disableLog i, .enable .out false]) ∨
      expandHandle s i t = [.disableLog i] ∨
      (¬ (i = .inn ∧ t.to.rank < t.frm.rank) ∧ expandHandle s i t = [.sendT i t]) ∨
      (s.st i.other = .openConfirm ∧ t.to = .openConfirm ∧ expandHandle s i t = [.collSel i t]))) := by
  unfold expandHandle
  split
  · exact .inl ⟨‹_›, rfl⟩
  refine .inr ⟨‹_›, ?_⟩
  split
  · exact .inl ⟨‹_ ∧ _›.1, ‹_ ∧ _›.2, rfl⟩
  split
  · split
    · exact .inr (.inl rfl)
    · split
      · exact .inr (.inr (.inr ⟨‹_›, ‹_›, rfl⟩))
      · exact .inr (.inl rfl)
    · exact .inr (.inr (.inl ⟨‹_›, rfl⟩))
  · exact .inr (.inr (.inl ⟨‹_›, rfl⟩))

/-- one step of the system (`next`), by who takes it: the manager, an FSM on a `closeCh` branch or returning from its
state function, `peer.stop()`, the remote. `rsend` drops the queue bound of `rsendSteps`, so `PStep` is wider than
`next`: only `of_mem` holds. -/
inductive PStep (s : PState) : Label → PState → Prop
  | main {l s'} : s.todo = [] → s.pdone = false → MainStep s l s' → PStep s l s'
  | instr {ins rest l s'} : s.todo = ins :: rest → InstrStep s rest ins l s' → PStep s l s'
  | fclose (i) {l y} : (s.f i).closed = true → (s.f i).pc.listensClose = true → (l, y) ∈ fOnClose i (s.f i) →
      PStep s l (applyCb l (s.setF i y))
  | frun (i st) {l y} : (s.f i).pc = .run st → (l, y) ∈ runOutcomes i (s.f i) st → PStep s l (applyCb l (s.setF i y))
  | apiStop : s.pclosed = false → PStep s .apiStop { s with pclosed := true }
  | rsend (i m) : (s.f i).conn = true → PStep s (.rsend i m) (s.setF i { s.f i with inq := (s.f i).inq ++ [m] })
  | lost (i m) : PStep s (.rsend i m) s

theorem PStep.of_fSteps {s s' : PState} {l : Label} {i : Dir} (h : (l, s') ∈ fSteps s i) : PStep s l s' := by
  simp only [fSteps, List.mem_map, List.mem_append] at h
  obtain ⟨⟨l, y⟩, h, he⟩ := h
  cases he
  rcases h with h | h <;> split at h
  · rename_i hc
    rw [Bool.and_eq_true] at hc
    exact .fclose i hc.1 hc.2 h
  · cases h
  · exact .frun i _ ‹_› h
  · cases h

theorem PStep.of_mem {s s' : PState} {l : Label} (h : (l, s') ∈ next s) : PStep s l s' := by
  simp only [next, List.mem_append] at h
  rcases h with (((h | h) | h) | h) | h
  · split at h
    · exact .main ‹_› (MainStep.of_mem h).1 (MainStep.of_mem h).2
    · exact .instr ‹_› (.of_mem h)
  · exact .of_fSteps h
  · exact .of_fSteps h
  · split at h
    · cases List.mem_singleton.1 h
      exact .apiStop (by simpa using ‹(!_) = true›)
    · cases h
  · simp only [rsendSteps, List.mem_flatMap, List.mem_append, List.mem_singleton] at h
    obtain ⟨i, -, m, -, h | h⟩ := h
    · split at h
      · rename_i hc
        rw [Bool.and_eq_true] at hc
        cases List.mem_singleton.1 h
        exact .rsend i m hc.1
      · cases h
    · cases h
      exact .lost i m

theorem applyCb_eq (l : Label) (s : PState) : applyCb l s = { s with hist := (applyCb l s).hist } := by
  cases l <;> rfl

/-- transitions an inbound FSM may request: it never *rises* to Idle or Connect -/
def innT (t : Trans) : Prop := (t.to = .idle ∨ t.to = .connect) → t.to.rank < t.frm.rank

instance (t : Trans) : Decidable (innT t) := by unfold innT; infer_instance

/-- control locations of an inbound FSM -/
def innPc : FPc → Prop
  | .req t | .wait t => innT t
  | .run s => s ≠ .idle ∧ s ≠ .connect
  | .errSend s d _ => innT ⟨s, d⟩
  | _ => True

/-- the FSM is offering (or about to offer) a transition to `disabled`: it took a `closeCh` branch
(defined here because `runOutcomes_step` speaks of it) -/
def PeerStop.toDis : FPc → Prop
  | .req t => t.to = .disabled
  | .errSend _ d _ => d = .disabled
  | _ => False

open PeerStop (toDis)

def fsmOnly : Label → Bool
  | .dial | .onEstablished _ | .handler _ => true
  | _ => false

/-- effect of an FSM step with label `l` on that FSM's `inEst` flag -/
def cbEffect (l : Label) (a a' : Bool) : Prop :=
  match l with
  | .onEstablished _ => a = false ∧ a' = true
  | .onClose _ => a = true ∧ a' = false
  | .handler _ => a = true ∧ a' = true
  | _ => a' = a

/-- what one step of an FSM does to the fields the invariants speak of. `FStep` assumes no invariant: the one fact
`inEst_run` needs about `x` (it is `FOk.inEst_run`) is its premise. -/
structure FStep (x : F) (l : Label) (y : F) : Prop where
  closed : y.closed = x.closed
  cb : cbEffect l x.inEst y.inEst
  pres : y.pc ≠ .absent
  inEst_run : (x.inEst = true → x.pc = .run .established) → y.inEst = true → y.pc = .run .established
  run : ∀ r, y.pc = .run r → x.pc = .run r
  done : y.pc = .done → y.conn = false ∧ y.dialing = false
  inn : innPc x.pc → innPc y.pc

attribute [local simp] innPc innT toDis cbEffect F.dropConn fsmOnly

/-! The next two proofs are a finite case bash over the outcome lists of the model: every outcome is an explicit record
and every field of `FStep` is checked on it by `simp`. -/

theorem runOutcomes_step {i : Dir} {x : F} {s : St} (hs : x.pc = .run s) :
    ∀ p ∈ runOutcomes i x s,
      FStep x p.1 p.2 ∧ ¬ toDis p.2.pc ∧ (p.1 = .dial → i = .out ∨ s = .idle ∨ s = .connect) := by
  obtain ⟨pc, closed, conn, dialing, inEst, veto, inq⟩ := x
  subst hs
  cases s
  all_goals simp only [runOutcomes] <;> repeat' split
  all_goals simp only [List.forall_mem_append, List.forall_mem_cons, List.not_mem_nil, false_implies, implies_true, and_true]
  all_goals try simp only [Bool.not_eq_true', Bool.not_eq_true, Bool.not_eq_false] at *
  all_goals and_intros
  all_goals first | (refine ⟨rfl, ?_, ?_, ?_, ?_, ?_, ?_⟩ <;> simp [*]) | simp [*]

theorem fOnClose_step {i : Dir} {x : F} : ∀ p ∈ fOnClose i x, FStep x p.1 p.2 ∧ fsmOnly p.1 = false := by
  obtain ⟨pc, closed, conn, dialing, inEst, veto, inq⟩ := x
  cases pc
  all_goals simp only [fOnClose] <;> repeat' split
  all_goals simp only [List.forall_mem_cons, List.not_mem_nil, false_implies, implies_true, and_true]
  all_goals and_intros
  all_goals first | (refine ⟨rfl, ?_, ?_, ?_, ?_, ?_, ?_⟩ <;> simp [*]) | simp [*]

theorem PStep.of_fsmOnly {s s' : PState} {l : Label} (hs : PStep s l s') (hl : fsmOnly l = true) :
    ∃ i st, (s.f i).pc = .run st ∧ (l = .dial → i = .out ∨ st = .idle ∨ st = .connect) := by
  cases hs with
  | main _ _ hm => cases hm <;> cases hl
  | instr _ hi =>
    cases hi
    case kill hm => cases (fOnClose_step _ hm).2.symm.trans hl
    all_goals cases hl
  | fclose i _ _ hm => cases (fOnClose_step _ hm).2.symm.trans hl
  | frun i st hpc hm => exact ⟨i, st, hpc, (runOutcomes_step hpc _ hm).2.2⟩
  | apiStop | rsend | lost => cases hl

end CoreBGP.Lemmas
