import CoreBGP.Model.GoExpr
import CoreBGP.Model.Peer
/-! What the decision ties (`Props.DecTie*`) compute with: `BExp.eval` node by node (the comparison operator is a string
literal), lookups in an environment given as an association list, `b2i` and integer casts, and the `switch` of
`handleStateTransition` as nested conditionals. -/
namespace CoreBGP.Lemmas.DecTie
open CoreBGP CoreBGP.Model CoreBGP.Gen

theorem eval_eq (ρ : Env) (l r : String) : BExp.eval ρ (.cmp "==" l r) = (ρ l == ρ r) := by simp [BExp.eval]
theorem eval_ne (ρ : Env) (l r : String) : BExp.eval ρ (.cmp "!=" l r) = (ρ l != ρ r) := by simp [BExp.eval]
theorem eval_lt (ρ : Env) (l r : String) : BExp.eval ρ (.cmp "<" l r) = decide (ρ l < ρ r) := by simp [BExp.eval]
theorem eval_gt (ρ : Env) (l r : String) : BExp.eval ρ (.cmp ">" l r) = decide (ρ r < ρ l) := by simp [BExp.eval]
theorem eval_ge (ρ : Env) (l r : String) : BExp.eval ρ (.cmp ">=" l r) = decide (ρ r ≤ ρ l) := by simp [BExp.eval]
theorem eval_atom (ρ : Env) (a : String) : BExp.eval ρ (.atom a) = (ρ a != 0) := rfl
theorem eval_not (ρ : Env) (e : BExp) : BExp.eval ρ (.not e) = !BExp.eval ρ e := rfl
theorem eval_and (ρ : Env) (a b : BExp) : BExp.eval ρ (.and a b) = (BExp.eval ρ a && BExp.eval ρ b) := rfl
theorem eval_or (ρ : Env) (a b : BExp) : BExp.eval ρ (.or a b) = (BExp.eval ρ a || BExp.eval ρ b) := rfl

/-! A lookup walks the list: with literal keys `simp only [envOf_cons, String.reduceEq, ↓reduceIte]` finds the entry. -/

theorem envOf_nil (x : String) : envOf [] x = 0 := rfl
theorem envOf_cons (k : String) (v : Int) (l : List (String × Int)) (x : String) :
    envOf ((k, v) :: l) x = if k = x then v else envOf l x := by
  by_cases h : k = x <;> simp [envOf, List.find?, h]

theorem b2i_ne_zero (b : Bool) : (b2i b != 0) = b := by cases b <;> rfl
theorem b2i_eq_zero (b : Bool) : (b2i b == 0) = !b := by cases b <;> rfl
theorem b2i_bne (a b : Bool) : (b2i a != b2i b) = (a != b) := by cases a <;> cases b <;> rfl

theorem int_bne (a b : Int) : (a != b) = !decide (a = b) := rfl

theorem natCast_beq (a b : Nat) : ((a : Int) == (b : Int)) = decide (a = b) :=
  decide_eq_decide.2 Int.natCast_inj

theorem natCast_bne (a b : Nat) : ((a : Int) != (b : Int)) = !decide (a = b) := by
  simp only [bne, natCast_beq]


theorem expandHandle_ite (s : PState) (i : Dir) (t : Trans) :
    expandHandle s i t =
      if t.to = .established then [.disableLog i.other, .sendT i t]
      else if i = .inn ∧ t.to.rank < t.frm.rank then [.disableLog i, .enable .out false]
      else if t.to = .openConfirm then
        if s.st i.other = .established then [.disableLog i]
        else if s.st i.other = .openConfirm then
          if (s.dominant ∧ i = .out) ∨ (¬ s.dominant ∧ i = .inn) then [.collSel i t] else [.disableLog i]
        else [.sendT i t]
      else [.sendT i t] := by
  unfold expandHandle
  cases s.st i.other <;> simp

end CoreBGP.Lemmas.DecTie
