import CoreBGP.Model.Packet
import CoreBGP.Model.Reader
import CoreBGP.Spec.Wire
import CoreBGP.Lemmas.Packet
/-! The reader of `Model.Reader` against the framing of `Spec.Wire`: one iteration in specification vocabulary
(`readOne_header`, `readOne_frame`), the loop without its fuel (`readAll_eq`), the reader and `Spec.frames` on a stream
of whole frames. -/
namespace CoreBGP.Lemmas
open CoreBGP CoreBGP.Model

theorem any_ne_iff_ne_marker (l : Bytes) (hl : l.length = 16) :
    (l.any (· ≠ 0xFF) = true) ↔ l ≠ Spec.marker := by
  unfold Spec.marker
  rw [Ne, List.eq_replicate_iff]
  simp [hl]

theorem readOne_header (h rest : Bytes) (hl : h.length = 19) :
    readOne (h ++ rest) =
      if h.take 16 ≠ Spec.marker then .error (.notif ⟨1, 1, []⟩ true)
      else if Spec.n16 (h.getD 16 0) (h.getD 17 0) < 19 ∨ Spec.n16 (h.getD 16 0) (h.getD 17 0) > 4096 then
        .error (.notif ⟨1, 2, []⟩ true)
      else if rest.length < Spec.n16 (h.getD 16 0) (h.getD 17 0) - 19 then .error .eof
      else
        match messageFromBytes (rest.take (Spec.n16 (h.getD 16 0) (h.getD 17 0) - 19)) (h.getD 18 0) with
        | .ok m => .ok (m, rest.drop (Spec.n16 (h.getD 16 0) (h.getD 17 0) - 19))
        | .error e => .error e := by
  unfold readOne
  have h1 : ¬ (h ++ rest).length < Gen.headerLength := by
    simp [Gen.headerLength, hl]
  have h2 : (h ++ rest).take Gen.headerLength = h := List.take_left' hl
  have h3 : (h ++ rest).drop Gen.headerLength = rest := List.drop_left' hl
  rw [if_neg h1]
  simp only [h2, h3, be16_toNat]
  by_cases hm : h.take 16 ≠ Spec.marker
  · rw [if_pos hm, if_pos ((any_ne_iff_ne_marker _ (by simp [hl])).2 hm)]
    rfl
  · rw [if_neg hm, if_neg (by rw [any_ne_iff_ne_marker _ (by simp [hl])]; exact hm)]
    have e1 : ∀ n : Nat, ((decide (n < Gen.headerLength) || decide (n > Gen.maxMessageLength)) = true) ↔
        (n < 19 ∨ n > 4096) := by
      intro n
      show ((decide (n < 19) || decide (n > 4096)) = true) ↔ _
      simp
    simp only [e1]
    rfl

def fhdr (t : UInt8) (n : Nat) : Bytes := Spec.marker ++ Spec.u16 n ++ [t]

theorem frame_eq (t : UInt8) (body rest : Bytes) :
    Spec.frame t body ++ rest = fhdr t (19 + body.length) ++ (body ++ rest) := by
  simp [Spec.frame, fhdr]

theorem fhdr_length (t : UInt8) (n : Nat) : (fhdr t n).length = 19 := rfl
theorem fhdr_take (t : UInt8) (n : Nat) : (fhdr t n).take 16 = Spec.marker := rfl
theorem fhdr_16 (t : UInt8) (n : Nat) : (fhdr t n).getD 16 0 = UInt8.ofNat (n / 256) := rfl
theorem fhdr_17 (t : UInt8) (n : Nat) : (fhdr t n).getD 17 0 = UInt8.ofNat (n % 256) := rfl
theorem fhdr_18 (t : UInt8) (n : Nat) : (fhdr t n).getD 18 0 = t := rfl

theorem readOne_frame (t : UInt8) (body rest : Bytes) (hb : body.length ≤ 4077) :
    readOne (Spec.frame t body ++ rest) =
      match messageFromBytes body t with
      | .ok m => .ok (m, rest)
      | .error e => .error e := by
  rw [frame_eq, readOne_header _ _ (fhdr_length _ _)]
  simp only [fhdr_take, fhdr_16, fhdr_17, fhdr_18, n16_u16 (19 + body.length) (by omega)]
  rw [if_neg (by simp), if_neg (by omega), if_neg (by simp)]
  simp

theorem messageFromBytes_unknown (t : UInt8) (body : Bytes) (ht : Spec.knownType t = false) :
    messageFromBytes body t = .error (.notif ⟨1, 3, [t]⟩ true) := by
  unfold messageFromBytes
  have h0 : ((t ≠ 1 ∧ t ≠ 2) ∧ t ≠ 3) ∧ t ≠ 4 := by
    simpa [Spec.knownType] using ht
  obtain ⟨⟨⟨h1, h2⟩, h3⟩, h4⟩ := h0
  have e : ∀ k : Nat, t ≠ UInt8.ofNat k → ¬ t.toNat = k := by
    intro k hk h
    apply hk
    rw [← h]
    simp
  rw [if_neg (e Gen.openMessageType h1), if_neg (e Gen.updateMessageType h2),
    if_neg (e Gen.notificationMessageType h3), if_neg (e Gen.keepAliveMessageType h4)]
  rfl

theorem decodeNotif_no_panic (b : Bytes) : decodeNotif b ≠ .panic := by
  unfold decodeNotif
  split <;> simp

theorem messageFromBytes_no_panic (b : Bytes) (t : UInt8) : messageFromBytes b t ≠ .error .panic := by
  unfold messageFromBytes
  split
  · have := decodeOpen_no_panic b
    split <;> simp_all
  · split
    · simp
    · split
      · have := decodeNotif_no_panic b
        split <;> simp_all
      · split <;> simp

theorem readOne_short {s : Bytes} (h : s.length < 19) : readOne s = .error .eof := by
  unfold readOne; rw [if_pos (show s.length < Gen.headerLength from h)]

theorem readOne_cases (s : Bytes) :
    (∃ e, readOne s = .error e ∧ e ≠ .panic) ∨
    (∃ m rest, readOne s = .ok (m, rest) ∧ rest.length + 19 ≤ s.length) := by
  by_cases hs : s.length < 19
  · exact .inl ⟨_, readOne_short hs, fun h => nomatch h⟩
  · obtain ⟨h, r, rfl, hl⟩ : ∃ h r, s = h ++ r ∧ h.length = 19 :=
      ⟨s.take 19, s.drop 19, (List.take_append_drop ..).symm, by simp; omega⟩
    rw [readOne_header _ _ hl]
    generalize Spec.n16 (h.getD 16 0) (h.getD 17 0) = len
    by_cases h1 : h.take 16 ≠ Spec.marker
    · rw [if_pos h1]; exact .inl ⟨_, rfl, fun h => nomatch h⟩
    rw [if_neg h1]
    by_cases h2 : len < 19 ∨ len > 4096
    · rw [if_pos h2]; exact .inl ⟨_, rfl, fun h => nomatch h⟩
    rw [if_neg h2]
    by_cases h3 : r.length < len - 19
    · rw [if_pos h3]; exact .inl ⟨_, rfl, fun h => nomatch h⟩
    rw [if_neg h3]
    cases he : messageFromBytes (r.take (len - 19)) (h.getD 18 0) with
    | ok m => exact .inr ⟨_, _, rfl, by simp only [List.length_append, List.length_drop]; omega⟩
    | error e => exact .inl ⟨e, rfl, fun h => messageFromBytes_no_panic _ _ (h ▸ he)⟩

theorem readLoop_eq_readAll (s : Bytes) : ∀ (f : Nat) (acc : List RMsg), s.length < f →
    readLoop f s acc = (acc ++ (readAll s).1, (readAll s).2) := by
  induction hn : s.length using Nat.strongRecOn generalizing s with
  | _ n ih =>
    intro f acc hf
    obtain ⟨f, rfl⟩ := Nat.exists_eq_add_one_of_ne_zero (Nat.ne_zero_of_lt hf)
    unfold readAll readLoop
    rcases readOne_cases s with ⟨e, he, _⟩ | ⟨m, rest, he, hc⟩
    · simp only [he, List.append_nil]
    · simp only [he]
      rw [ih _ (by omega) rest rfl f _ (by omega), ih _ (by omega) rest rfl _ _ (by omega)]
      simp

theorem readAll_eq (s : Bytes) : readAll s = match readOne s with
    | .ok (m, rest) => (m :: (readAll rest).1, (readAll rest).2)
    | .error e => ([], e) := by
  rcases readOne_cases s with ⟨e, he, _⟩ | ⟨m, rest, he, hc⟩
  · rw [he]; unfold readAll readLoop; rw [he]
  · rw [he]; conv => lhs; unfold readAll readLoop
    rw [he]; dsimp only
    rw [readLoop_eq_readAll rest _ _ (by omega)]; rfl

theorem truncated_no_notification (s : Bytes) (h : s.length < 19) : readAll s = ([], .eof) := by
  rw [readAll_eq, readOne_short h]

theorem reader_no_panic (s : Bytes) : (readAll s).2 ≠ .panic := by
  induction hn : s.length using Nat.strongRecOn generalizing s with
  | _ n ih =>
    rw [readAll_eq]
    rcases readOne_cases s with ⟨e, he, hp⟩ | ⟨m, rest, he, hc⟩
    · rw [he]; exact hp
    · rw [he]; exact ih _ (by omega) rest rfl

theorem messageFromBytes_update (body : Bytes) : messageFromBytes body 2 = .ok (.update body) := rfl

theorem messageFromBytes_keepalive (body : Bytes) : messageFromBytes body 4 = .ok .keepalive := rfl

theorem messageFromBytes_known (t : UInt8) (body : Bytes) (ht : Spec.knownType t = true)
    (h1 : t = 1 → ∃ o, decodeOpen body = .ok o) (h3 : t = 3 → 2 ≤ body.length) :
    ∃ m, messageFromBytes body t = .ok m ∧ m.type = t ∧ ∀ b, m = .update b → b = body := by
  have h0 : t = 1 ∨ t = 2 ∨ t = 3 ∨ t = 4 := by
    simpa [Spec.knownType, or_assoc] using ht
  rcases h0 with rfl | rfl | rfl | rfl
  · obtain ⟨o, ho⟩ := h1 rfl
    refine ⟨.open_ o, ?_, rfl, ?_⟩
    · unfold messageFromBytes
      rw [if_pos (by decide), ho]
    · intro b hb; cases hb
  · exact ⟨.update body, messageFromBytes_update body, rfl, fun b hb => by cases hb; rfl⟩
  · have := h3 rfl
    match body, this with
    | c :: s :: d, _ =>
      refine ⟨.notif ⟨c, s, d⟩, ?_, rfl, ?_⟩
      · rfl
      · intro b hb; cases hb
  · exact ⟨.keepalive, messageFromBytes_keepalive body, rfl, fun b hb => nomatch hb⟩

theorem readAll_frames (f : UInt8 × Bytes → RMsg) (ms : List (UInt8 × Bytes)) (tail : Bytes)
    (h : ∀ m ∈ ms, m.2.length ≤ 4077 ∧ messageFromBytes m.2 m.1 = .ok (f m)) :
    readAll ((ms.map fun m => Spec.frame m.1 m.2).flatten ++ tail) =
      (ms.map f ++ (readAll tail).1, (readAll tail).2) := by
  induction ms with
  | nil => rfl
  | cons x ms ih =>
    obtain ⟨hb, hx⟩ := h x List.mem_cons_self
    rw [List.map_cons, List.flatten_cons, List.append_assoc, readAll_eq, readOne_frame _ _ _ hb, hx]
    dsimp only
    rw [ih fun m hm => h m (List.mem_cons_of_mem _ hm)]
    rfl

def kaOrUpdate (m : UInt8 × Bytes) : RMsg := if m.1 = 2 then .update m.2 else .keepalive

theorem readAll_kaOrUpdate (ms : List (UInt8 × Bytes))
    (hms : ∀ m ∈ ms, (m.1 = 2 ∧ m.2.length ≤ 4077) ∨ (m.1 = 4 ∧ m.2 = [])) :
    readAll (ms.map fun m => Spec.frame m.1 m.2).flatten = (ms.map kaOrUpdate, .eof) := by
  have := readAll_frames kaOrUpdate ms [] fun m hm => by
    obtain ⟨t, body⟩ := m
    rcases hms _ hm with ⟨rfl, hb⟩ | ⟨rfl, rfl⟩
    · exact ⟨hb, messageFromBytes_update body⟩
    · exact ⟨by simp, messageFromBytes_keepalive []⟩
  rwa [List.append_nil, truncated_no_notification [] (by simp), List.append_nil] at this

theorem frame_length (t : UInt8) (body : Bytes) : (Spec.frame t body).length = 19 + body.length := by
  simp [Spec.frame, Spec.marker, Spec.u16]; omega

theorem headerFaults_fhdr (t : UInt8) (n : Nat) (h1 : 19 ≤ n) (h2 : n ≤ 4096) :
    Spec.headerFaults (fhdr t n) = [] := by
  have e1 : ¬ ((fhdr t n).take 16 ≠ Spec.marker) := by simp [fhdr_take]
  have e2 : ¬ (Spec.n16 ((fhdr t n).getD 16 0) ((fhdr t n).getD 17 0) < 19 ∨
      Spec.n16 ((fhdr t n).getD 16 0) ((fhdr t n).getD 17 0) > 4096) := by
    rw [fhdr_16, fhdr_17, n16_u16 n (by omega)]; omega
  unfold Spec.headerFaults
  simp only [if_neg e1, if_neg e2]
  rfl

theorem frames_step (fuel : Nat) (t : UInt8) (body rest : Bytes) (hk : Spec.knownType t = true)
    (hb : body.length ≤ 4077) :
    Spec.frames (fuel + 1) (Spec.frame t body ++ rest) =
      ((t, body) :: (Spec.frames fuel rest).1, (Spec.frames fuel rest).2) := by
  have hlen : (Spec.frame t body ++ rest).length = 19 + body.length + rest.length := by
    rw [List.length_append, frame_length]
  have htake : (Spec.frame t body ++ rest).take 19 = fhdr t (19 + body.length) := by
    rw [frame_eq, List.take_left' (fhdr_length _ _)]
  have hdrop : (Spec.frame t body ++ rest).drop (19 + body.length) = rest := by
    rw [List.drop_left' (frame_length _ _)]
  have htk : ((Spec.frame t body ++ rest).take (19 + body.length)).drop 19 = body := by
    rw [List.take_left' (frame_length _ _)]
    simp [Spec.frame, Spec.marker, Spec.u16]
  rw [Spec.frames]
  rw [if_neg (by omega), if_neg (by omega)]
  simp only [htake, fhdr_16, fhdr_17, fhdr_18, n16_u16 (19 + body.length) (by omega),
    headerFaults_fhdr t (19 + body.length) (by omega) (by omega)]
  rw [if_neg (by omega)]
  simp only [hk, hdrop, htk]
  simp

theorem frames_concat : ∀ (ms : List (UInt8 × Bytes)) (fuel : Nat),
    (∀ m ∈ ms, Spec.knownType m.1 = true ∧ m.2.length ≤ 4077) → ms.length < fuel →
    Spec.frames fuel (ms.map fun m => Spec.frame m.1 m.2).flatten = (ms, .clean) := by
  intro ms
  induction ms with
  | nil =>
    intro fuel _ hf
    cases fuel with
    | zero => omega
    | succ f => simp [Spec.frames]
  | cons x ms ih =>
    intro fuel h hf
    obtain ⟨t, body⟩ := x
    cases fuel with
    | zero => omega
    | succ f =>
      obtain ⟨hk, hb⟩ := h (t, body) (by simp)
      simp only [List.map_cons, List.flatten_cons]
      rw [frames_step f t body _ hk hb, ih f (fun m hm => h m (by simp [hm])) (by simpa using hf)]

theorem frames_flatten_length (ms : List (UInt8 × Bytes)) :
    ms.length ≤ (ms.map fun m => Spec.frame m.1 m.2).flatten.length := by
  induction ms with
  | nil => simp
  | cons x ms ih =>
    simp only [List.map_cons, List.flatten_cons, List.length_append, List.length_cons, frame_length]
    omega

end CoreBGP.Lemmas
