import CoreBGP.Model.Update
import CoreBGP.Spec.Wire
import CoreBGP.Spec.Update
import CoreBGP.Lemmas.Bytes
/-!
Lemmas for C16 / C17. First the specification side: `Spec.chooseNotif` as a priority search
(`chooseNotif_eq`), and the reference parse as a partition of the bytes (`partition_reconstruct`,
`attrs_reconstruct`, `attrs_wire`). Then the decoder: `pathAttrsLoop` over the reference parse (`loopOn`),
`decodeUpdate_eq`, and `Decode` as a callback-independent script of steps run against the callbacks
(`Decode.run`, `Decode.script`, `Decode.decodeUpdate_run`), from which every C16 / C17 statement about the
decoder is read off. Namespace `Decode` holds what speaks of the script or of errors joined in order (`Flat`); the
equations of the model's own functions (`decodePathAttrs_eq`, `decodeUpdate_eq`) stay in `CoreBGP.Lemmas`.
-/
namespace CoreBGP.Lemmas
open CoreBGP CoreBGP.Model

def firstOf (c : Spec.Class) (ls : Spec.Leaves) : Option Notif :=
  (ls.find? (fun l => l.1 = c)).map (·.2)

theorem firstOf_append (c : Spec.Class) (a b : Spec.Leaves) :
    firstOf c (a ++ b) = (firstOf c a).or (firstOf c b) := by
  unfold firstOf
  rw [List.find?_append]
  cases List.find? (fun l => decide (l.1 = c)) a <;> simp

theorem firstOf_nil (c : Spec.Class) : firstOf c [] = none := rfl

theorem firstOf_eq_none {c : Spec.Class} {ls : Spec.Leaves} :
    firstOf c ls = none ↔ ∀ l ∈ ls, l.1 ≠ c := by
  simp [firstOf]

theorem rank_inj {a b : Spec.Class} (h : a.rank = b.rank) : a = b := by
  cases a <;> cases b <;> simp [Spec.Class.rank] at h <;> rfl

theorem rank_le (a : Spec.Class) : a.rank ≤ 4 := by
  cases a <;> simp [Spec.Class.rank]

theorem best_ge (ls : Spec.Leaves) : ∀ (m k : Nat),
    k ≤ ls.foldl (fun m l => max m l.1.rank) m ↔ (k ≤ m ∨ ∃ l ∈ ls, k ≤ l.1.rank) := by
  induction ls with
  | nil => intro m k; simp
  | cons a as ih =>
    intro m k
    simp only [List.foldl_cons, ih, List.mem_cons, exists_eq_or_imp]
    have : k ≤ max m a.fst.rank ↔ k ≤ m ∨ k ≤ a.fst.rank := by omega
    rw [this, or_assoc]

theorem chooseNotif_of_first {c : Spec.Class} {ls : Spec.Leaves} {n : Notif}
    (hr : 0 < c.rank) (hle : ∀ l ∈ ls, l.1.rank ≤ c.rank) (h : firstOf c ls = some n) :
    Spec.chooseNotif ls = n := by
  simp only [firstOf, Option.map_eq_some_iff] at h
  obtain ⟨l, hl, rfl⟩ := h
  have hbest : ls.foldl (fun m l => max m l.1.rank) 0 = c.rank := by
    apply Nat.le_antisymm
    · apply Nat.le_of_not_lt
      intro hlt
      rcases (best_ge ls 0 (c.rank + 1)).1 hlt with h0 | ⟨l, hl, h1⟩
      · omega
      · have := hle l hl; omega
    · apply (best_ge ls 0 c.rank).2
      right
      have hp := List.find?_some hl
      simp at hp
      exact ⟨l, List.mem_of_find?_eq_some hl, by rw [hp]; exact Nat.le_refl _⟩
  unfold Spec.chooseNotif
  simp only [hbest]
  have hne : c.rank ≠ 0 := by omega
  simp only [hne, if_false]
  have hcongr : ls.find? (fun l => decide (l.1.rank = c.rank)) = ls.find? (fun l => decide (l.1 = c)) := by
    congr 1; funext l
    exact decide_eq_decide.2 ⟨rank_inj, congrArg _⟩
  rw [hcongr, hl]

theorem chooseNotif_of_rank0 {ls : Spec.Leaves} (h : ∀ l ∈ ls, l.1.rank = 0) :
    Spec.chooseNotif ls = Spec.genericUpdate := by
  have hbest : ls.foldl (fun m l => max m l.1.rank) 0 = 0 := by
    apply Nat.le_antisymm _ (Nat.zero_le _)
    apply Nat.le_of_not_lt
    intro hlt
    rcases (best_ge ls 0 1).1 hlt with h0 | ⟨l, hl, h1⟩
    · omega
    · have := h l hl; omega
  unfold Spec.chooseNotif
  simp [hbest]

theorem rank_step {c c' : Spec.Class} {ls : Spec.Leaves} (hc : c'.rank + 1 = c.rank)
    (ha : ∀ l ∈ ls, l.1.rank ≤ c.rank) (hn : firstOf c ls = none) : ∀ l ∈ ls, l.1.rank ≤ c'.rank := by
  intro l hl
  have h1 := ha l hl
  have h2 : l.1.rank ≠ c.rank := fun h => firstOf_eq_none.1 hn l hl (rank_inj h)
  omega

theorem chooseNotif_eq (ls : Spec.Leaves) :
    Spec.chooseNotif ls =
      match firstOf .notification ls, firstOf .withdraw ls, firstOf .discard ls, firstOf .other ls with
      | some n, _, _, _ => n
      | none, some n, _, _ => n
      | none, none, some n, _ => n
      | none, none, none, some n => n
      | none, none, none, none => Spec.genericUpdate := by
  have a4 : ∀ l ∈ ls, l.1.rank ≤ Spec.Class.notification.rank := fun l _ => rank_le _
  split
  next n _ _ _ h => exact chooseNotif_of_first (by decide) a4 h
  next n _ _ h4 h3 => exact chooseNotif_of_first (by decide) (rank_step rfl a4 h4) h3
  next n _ h4 h3 h2 => exact chooseNotif_of_first (by decide) (rank_step rfl (rank_step rfl a4 h4) h3) h2
  next n h4 h3 h2 h1 =>
    exact chooseNotif_of_first (by decide) (rank_step rfl (rank_step rfl (rank_step rfl a4 h4) h3) h2) h1
  next h4 h3 h2 h1 =>
    exact chooseNotif_of_rank0 fun l hl => Nat.le_zero.1
      (rank_step (c' := .none_) rfl (rank_step rfl (rank_step rfl (rank_step rfl a4 h4) h3) h2) h1 l hl)

theorem partition_reconstruct (b w a n : Bytes) (h : Spec.partition b = some (w, a, n)) :
    Spec.u16 w.length ++ w ++ Spec.u16 a.length ++ a ++ n = b ∧ w.length ≤ 65535 ∧ a.length ≤ 65535 := by
  unfold Spec.partition at h
  split at h
  next w1 w2 r1 =>
    simp only at h
    split at h
    · exact absurd h (by simp)
    next hlen =>
      split at h
      next p1 p2 r2 hd =>
        split at h
        · exact absurd h (by simp)
        next hlen2 =>
          obtain ⟨rfl, rfl, rfl⟩ := h
          have hw : (List.take (Spec.n16 w1 w2) r1).length = Spec.n16 w1 w2 :=
            List.length_take_of_le (by omega)
          have ha : (List.take (Spec.n16 p1 p2) r2).length = Spec.n16 p1 p2 :=
            List.length_take_of_le (by omega)
          rw [hw, ha, u16_n16, u16_n16]
          refine ⟨?_, Nat.le_of_lt_succ (n16_lt _ _), Nat.le_of_lt_succ (n16_lt _ _)⟩
          have : r1 = List.take (Spec.n16 w1 w2) r1 ++ List.drop (Spec.n16 w1 w2) r1 := (List.take_append_drop _ _).symm
          conv => rhs; rw [this, hd]
          simp [List.take_append_drop]
      next => exact absurd h (by simp)
  next => exact absurd h (by simp)

theorem attrs_reconstruct : ∀ (fuel : Nat) (b : Bytes),
    ((Spec.attrs fuel b).1.map Spec.attrWire).flatten ++ (Spec.attrs fuel b).2 = b := by
  intro fuel
  induction fuel with
  | zero => intro b; simp [Spec.attrs]
  | succ fuel ih =>
    intro b
    unfold Spec.attrs
    split
    · simp
    next f t rest =>
      split
      next hx =>
        split
        next l1 l2 v =>
          split
          · simp
          next hlen =>
            have hl : (List.take (Spec.n16 l1 l2) v).length = Spec.n16 l1 l2 :=
              List.length_take_of_le (by omega)
            have := ih (List.drop (Spec.n16 l1 l2) v)
            simp only [List.map_cons, List.flatten_cons, Spec.attrWire, hx, hl, u16_n16,
              List.append_assoc, this]
            simp [List.take_append_drop]
        · simp
      next hx =>
        split
        next l v =>
          split
          · simp
          next hlen =>
            have hl : (List.take l.toNat v).length = l.toNat :=
              List.length_take_of_le (by omega)
            have := ih (List.drop l.toNat v)
            simp only [List.map_cons, List.flatten_cons, Spec.attrWire, hx, hl, UInt8.ofNat_toNat,
              List.append_assoc, this]
            simp [List.take_append_drop]
        · simp
    · simp

theorem attrs_wire (as : List Spec.Attr)
    (hfit : ∀ a ∈ as, (a.flags.toNat / 16 % 2 = 1 → a.value.length ≤ 65535) ∧ (a.flags.toNat / 16 % 2 = 0 → a.value.length ≤ 255)) :
    ∀ fuel, ((as.map Spec.attrWire).flatten).length < fuel →
      Spec.attrs fuel (as.map Spec.attrWire).flatten = (as, []) := by
  induction as with
  | nil =>
    intro fuel h
    cases fuel with
    | zero => simp at h
    | succ k => simp [Spec.attrs]
  | cons a as ih =>
    intro fuel h
    have ih' := ih (fun x hx => hfit x (List.mem_cons_of_mem _ hx))
    obtain ⟨hf1, hf2⟩ := hfit a List.mem_cons_self
    cases fuel with
    | zero => simp at h
    | succ k =>
      obtain ⟨fl, code, value⟩ := a
      simp only [List.map_cons, List.flatten_cons] at h ⊢
      have hlen : ¬ (value ++ (List.map Spec.attrWire as).flatten).length < value.length := by
        simp
      by_cases hx : fl.toNat / 16 % 2 = 1
      · obtain ⟨x, y, hu, hn⟩ := u16_eq_cons (hf1 hx)
        simp only [Spec.attrWire, hx, if_true, hu, List.cons_append, List.nil_append] at h ⊢
        unfold Spec.attrs
        simp only [hx, if_true, hn]
        simp only [hlen, if_false, List.take_left', List.drop_left']
        rw [ih' k (by simp only [List.length_cons, List.length_append] at h; omega)]
      · have hx0 : fl.toNat / 16 % 2 = 0 := by omega
        have hv := hf2 hx0
        simp only at hv
        simp only [Spec.attrWire, hx, if_false, List.cons_append, List.nil_append] at h ⊢
        unfold Spec.attrs
        have hn : (UInt8.ofNat value.length).toNat = value.length :=
          UInt8.toNat_ofNat_of_lt' (Nat.lt_succ_of_le hv)
        simp only [hx, if_false, hn]
        simp only [hlen, if_false, List.take_left', List.drop_left']
        rw [ih' k (by simp only [List.length_cons, List.length_append] at h; omega)]

def attrCall (a : Spec.Attr) : Call := .attr a.code a.flags a.value

/-- the attribute type `decodePathAttrs` names when the block ends in junk -/
def junkCode : Bytes → UInt8
  | _ :: t :: _ => t
  | _ => 0

/-- `pathAttrsLoop` run over the reference parse of the block -/
def loopOn (cb : Callbacks) : List Spec.Attr → Bytes → PAState → Sum PAState PAState
  | [], junk, st =>
    if junk = [] then .inl st
    else .inl { st with me := joinErr st.me (some (totalAttrLenErr (junkCode junk))) }
  | a :: as, junk, st =>
    if st.seen.contains a.code then
      if a.code = 14 ∨ a.code = 15 then .inr { st with me := joinErr st.me (some malformedAttrList) }
      else loopOn cb as junk st
    else
      let c := attrCall a
      let st' : PAState := { st with calls := st.calls ++ [c], seen := a.code :: st.seen }
      match cb st.calls c with
      | none => loopOn cb as junk st'
      | some e =>
        let st'' : PAState := { st' with me := joinErr st'.me (some e) }
        if e.hasNotif then .inr st'' else loopOn cb as junk st''

theorem loop_eq_loopOn (cb : Callbacks) : ∀ (fuel : Nat) (b : Bytes) (st : PAState), b.length < fuel →
    pathAttrsLoop cb fuel b st = loopOn cb (Spec.attrs fuel b).1 (Spec.attrs fuel b).2 st := by
  intro fuel
  induction fuel with
  | zero => intro b st h; simp at h
  | succ fuel ih =>
    intro b st h
    match b, h with
    | [], _ => simp [pathAttrsLoop, Spec.attrs, loopOn]
    | [x], _ => simp [pathAttrsLoop, Spec.attrs, loopOn, junkCode]
    | f :: t :: rest, h =>
      by_cases hx : f.toNat / 16 % 2 = 1
      · match rest, h with
        | [], _ | [l1], _ => simp [pathAttrsLoop, Spec.attrs, loopOn, junkCode, flagExtendedLen, hx]
        | l1 :: l2 :: v, h =>
          by_cases hlen : v.length < Spec.n16 l1 l2
          · simp [pathAttrsLoop, Spec.attrs, loopOn, junkCode, flagExtendedLen, hx, be16_toNat, hlen]
          · simp only [List.length_cons] at h
            have hr : ∀ st, pathAttrsLoop cb fuel (List.drop (Spec.n16 l1 l2) v) st = _ :=
              fun st => ih (List.drop (Spec.n16 l1 l2) v) st (by rw [List.length_drop]; omega)
            simp only [pathAttrsLoop, Spec.attrs, flagExtendedLen, hx, decide_true, if_true, be16_toNat, hlen, if_false,
              loopOn, Gen.PATH_ATTR_MP_REACH_NLRI, Gen.PATH_ATTR_MP_UNREACH_NLRI, malformedAttrList, attrCall, hr]
            -- what still differs is the compiler-made matcher for `match cb st.calls c with`:
            -- `pathAttrsLoop.match_…` against `loopOn.match_…`
            rfl
      · match rest, h with
        | [], _ => simp [pathAttrsLoop, Spec.attrs, loopOn, junkCode, flagExtendedLen, hx]
        | l :: v, h =>
          by_cases hlen : v.length < l.toNat
          · simp [pathAttrsLoop, Spec.attrs, loopOn, junkCode, flagExtendedLen, hx, hlen]
          · simp only [List.length_cons] at h
            have hr : ∀ st, pathAttrsLoop cb fuel (List.drop l.toNat v) st = _ :=
              fun st => ih (List.drop l.toNat v) st (by rw [List.length_drop]; omega)
            simp only [pathAttrsLoop, Spec.attrs, flagExtendedLen, hx, decide_false, Bool.false_eq_true, hlen, if_false,
              loopOn, Gen.PATH_ATTR_MP_REACH_NLRI, Gen.PATH_ATTR_MP_UNREACH_NLRI, malformedAttrList, attrCall, hr]
            rfl

theorem joinErr_any_hasNotif (a b : Option Err) :
    (joinErr a b).any Err.hasNotif = (a.any Err.hasNotif || b.any Err.hasNotif) := by
  cases a <;> cases b <;> simp [joinErr, Err.hasNotif, ErrList.hasNotif]

namespace Decode

def joinAll (me : Option Err) (errs : List Err) : Option Err :=
  errs.foldl (fun m e => joinErr m (some e)) me

/-- `e` is built by `errors.Join` from exactly the errors `errs`, in this order: whatever anybody
asks of the tree (nil or not, `hasNotif`, its leaves, its nodes) is asked of the list -/
inductive Flat : Option Err → List Err → Prop
  | nil : Flat none []
  | one (e : Err) : Flat (some e) [e]
  | join {a b xs ys} : Flat a xs → Flat b ys → Flat (joinErr a b) (xs ++ ys)

theorem Flat.ofOption : ∀ o : Option Err, Flat o o.toList
  | .none => .nil
  | .some e => .one e

theorem Flat.joinAll {m : Option Err} {xs : List Err} (h : Flat m xs) (ys : List Err) :
    Flat (joinAll m ys) (xs ++ ys) := by
  induction ys generalizing m xs with
  | nil => simpa [Decode.joinAll] using h
  | cons y ys ih => simpa [Decode.joinAll] using ih (h.join (.one y))

theorem Flat.eq_none_iff {e : Option Err} {xs : List Err} (h : Flat e xs) : e = .none ↔ xs = [] := by
  induction h with
  | nil => simp
  | one e => simp
  | @join a b xs ys _ _ iha ihb => cases a <;> cases b <;> simp_all [joinErr]

theorem Flat.hasNotif {e : Option Err} {xs : List Err} (h : Flat e xs) :
    e.any Err.hasNotif = xs.any Err.hasNotif := by
  induction h with
  | nil => rfl
  | one e => simp
  | join _ _ iha ihb => rw [joinErr_any_hasNotif, iha, ihb, List.any_append]

/-- `if b != nil { me = errors.Join(me, b) }` -/
theorem Flat.joinIf {a b : Option Err} {xs ys : List Err} (ha : Flat a xs) (hb : Flat b ys) :
    Flat (if b.isSome then joinErr a b else a) (xs ++ ys) := by
  cases b with
  | some e => exact ha.join hb
  | none =>
    cases hb.eq_none_iff.1 rfl
    simpa using ha

end Decode
open Decode

/-- the well-known mandatory attribute found missing at the end of `decodePathAttrs`, ORIGIN first -/
def missing? (hasNLRI : Bool) (codes : List UInt8) : Option UInt8 :=
  if hasNLRI ∨ codes.contains 14 then
    (if !codes.contains 1 then some 1 else if !codes.contains 2 then some 2 else none)
  else none

theorem missing?_congr (hasNLRI : Bool) {l l' : List UInt8} (h : ∀ c, c ∈ l ↔ c ∈ l') :
    missing? hasNLRI l = missing? hasNLRI l' := by
  simp only [missing?, List.contains_eq_mem, h]

def missingFault (c : UInt8) : Err := .taw c (some ⟨3, 3, [c]⟩)

/-- the mandatory-attribute check at the end of `decodePathAttrs` -/
def finishAttrs (hasNLRI : Bool) : Sum PAState PAState → List Call × Option Err
  | .inr st => (st.calls, st.me)
  | .inl st => (st.calls, joinAll st.me ((missing? hasNLRI st.seen).toList.map missingFault))

theorem parseAttrs_nil : Spec.parseAttrs [] = ([], []) := rfl

/-- the early exit of `decodePathAttrs` (empty block, no NLRI) is what the loop and the check give
anyway -/
theorem decodePathAttrs_eq (cb : Callbacks) (calls : List Call) (b : Bytes) (hasNLRI : Bool) :
    decodePathAttrs cb calls b hasNLRI =
      finishAttrs hasNLRI (loopOn cb (Spec.parseAttrs b).1 (Spec.parseAttrs b).2 ⟨calls, none, []⟩) := by
  unfold decodePathAttrs
  rw [loop_eq_loopOn cb _ b _ (Nat.lt_succ_self _)]
  split
  next h =>
    simp only [Bool.and_eq_true, decide_eq_true_eq, Bool.not_eq_true'] at h
    obtain ⟨h1, rfl⟩ := h
    cases List.eq_nil_of_length_eq_zero (by omega : b.length = 0)
    rfl
  · unfold Spec.parseAttrs
    generalize loopOn cb _ _ _ = r
    cases r with
    | inr st => rfl
    | inl st =>
      delta Gen.PATH_ATTR_MP_REACH_NLRI Gen.PATH_ATTR_AS_PATH Gen.PATH_ATTR_ORIGIN
      simp only [finishAttrs, missing?]
      generalize st.seen.contains 14 = x14
      generalize st.seen.contains 1 = x1
      generalize st.seen.contains 2 = x2
      cases x14 <;> cases x1 <;> cases x2 <;> cases hasNLRI <;> rfl

/-- everything `Decode` does once the three sections are known -/
def decodeTail (cb : Callbacks) (w ab n : Bytes) : List Call × Option Err :=
  let c := Call.wr w
  let me := joinErr none (cb [] c)
  if (cb [] c).any Err.hasNotif then ([c], me)
  else
    let r := decodePathAttrs cb [c] ab (n.length > 0)
    let me := if r.2.isSome then joinErr me r.2 else me
    if r.2.any Err.hasNotif then (r.1, me)
    else
      let cn := Call.nlri n
      let nerr := cb r.1 cn
      (r.1 ++ [cn], if nerr.isSome then joinErr me nerr else me)

theorem partition_short {b : Bytes} (h : b.length < 4) : Spec.partition b = none := by
  unfold Spec.partition
  split
  next w1 w2 r1 =>
    simp only [List.length_cons] at h
    have : r1.length < Spec.n16 w1 w2 + 2 := by omega
    simp [this]
  · rfl

theorem decodeUpdate_eq (cb : Callbacks) (b : Bytes) :
    decodeUpdate cb b = .ok (
      if b.length < 4 then ([], some (.notif genericUpdateNotif))
      else match Spec.partition b with
        | none => ([], some malformedAttrList)
        | some (w, ab, n) => decodeTail cb w ab n) := by
  match b with
  | [] | [x] => simp [decodeUpdate]
  | w1 :: w2 :: r1 =>
    by_cases h4 : (w1 :: w2 :: r1).length < 4
    · simp only [List.length_cons] at h4
      simp only [decodeUpdate, List.length_cons, h4, if_true]
    · simp only [List.length_cons] at h4
      simp only [decodeUpdate, List.length_cons, h4, if_false, Spec.partition, be16_toNat]
      by_cases hlen : r1.length < Spec.n16 w1 w2 + 2
      · simp [hlen]
      · simp only [hlen]
        obtain ⟨p1, p2, r2, hd⟩ : ∃ p1 p2 r2, List.drop (Spec.n16 w1 w2) r1 = p1 :: p2 :: r2 := by
          match hh : List.drop (Spec.n16 w1 w2) r1 with
          | [] | [_] => have := congrArg List.length hh; simp at this; omega
          | p1 :: p2 :: r2 => exact ⟨p1, p2, r2, rfl⟩
        have hw : Spec.n16 w1 w2 + 2 ≤ r1.length := Nat.le_of_not_lt hlen
        simp only [slice?_eq (Nat.le_add_right _ 2) hw, sliceFrom?_eq hw, slice?_eq (Nat.zero_le _) (by omega : Spec.n16 w1 w2 ≤ r1.length),
          ← List.drop_drop, hd, Nat.add_sub_cancel_left, List.take_succ_cons, List.take_zero, List.drop_succ_cons,
          List.drop_zero, Nat.sub_zero]
        by_cases hpal : r2.length < Spec.n16 p1 p2
        · simp [hpal]
        · simp only [hpal, if_false, decodeTail, apply_ite (Res.ok (ε := Unit))]

theorem decodeUpdate_no_panic (cb : Callbacks) (b : Bytes) : decodeUpdate cb b ≠ .panic := by
  rw [decodeUpdate_eq]; exact fun h => nomatch h

namespace Decode

/-- one thing `Decode` does: invoke a callback, or find a fault of its own -/
inductive Step where
  | call (c : Call)
  | fault (e : Err)

def Step.after (calls : List Call) : Step → List Call
  | .call c => calls ++ [c]
  | .fault _ => calls

def Step.err (cb : Callbacks) (calls : List Call) : Step → Option Err
  | .call c => cb calls c
  | .fault e => some e

def Step.fault? : Step → Option Err
  | .fault e => some e
  | .call _ => none

/-- carry out the steps in order, up to and including the first whose error contains a
Notification: the calls made, and the errors met -/
def run (cb : Callbacks) : List Step → List Call → List Call × List Err
  | [], calls => (calls, [])
  | s :: ss, calls =>
    match s.err cb calls with
    | none => run cb ss (s.after calls)
    | some e =>
      if e.hasNotif then (s.after calls, [e])
      else ((run cb ss (s.after calls)).1, e :: (run cb ss (s.after calls)).2)

theorem run_append (cb : Callbacks) (ys : List Step) : ∀ (xs : List Step) (calls : List Call),
    run cb (xs ++ ys) calls =
      if (run cb xs calls).2.any Err.hasNotif then run cb xs calls
      else ((run cb ys (run cb xs calls).1).1, (run cb xs calls).2 ++ (run cb ys (run cb xs calls).1).2) := by
  intro xs
  induction xs with
  | nil => intro calls; rfl
  | cons s xs ih =>
    intro calls
    cases he : s.err cb calls with
    | none => simp only [List.cons_append, run, he]; exact ih _
    | some e =>
      simp only [List.cons_append, run, he]
      by_cases h : e.hasNotif = true
      · simp [h]
      · simp only [h, Bool.false_eq_true, if_false, ih, List.any_cons, Bool.false_or]
        split <;> rfl

theorem run_call (cb : Callbacks) (c : Call) (calls : List Call) :
    run cb [.call c] calls = (calls ++ [c], (cb calls c).toList) := by
  simp only [run, Step.err]
  cases cb calls c with
  | none => rfl
  | some e => simp only; split <;> rfl

theorem run_map_fault (cb : Callbacks) (calls : List Call) : ∀ fs : List Err, (∀ e ∈ fs, e.hasNotif = false) →
    run cb (fs.map .fault) calls = (calls, fs) := by
  intro fs
  induction fs with
  | nil => intro _; rfl
  | cons e fs ih =>
    intro h
    simp only [List.map_cons, run, Step.err, Step.after, h e List.mem_cons_self, Bool.false_eq_true, if_false,
      ih fun x hx => h x (List.mem_cons_of_mem _ hx)]

theorem run_ne_nil_of_fault (cb : Callbacks) : ∀ (ss : List Step) (calls : List Call),
    ss.filterMap Step.fault? ≠ [] → (run cb ss calls).2 ≠ [] := by
  intro ss
  induction ss with
  | nil => intro _ h; exact absurd rfl h
  | cons s ss ih =>
    intro calls h
    unfold run
    cases hs : s.err cb calls with
    | some e => simp only; split <;> simp
    | none =>
      cases s with
      | fault e => cases hs
      | call c => exact ih _ (by simpa [Step.fault?] using h)

/-- the faults `decodePathAttrs` itself finds in a parsed block (`fo` its first occurrences, `seen`
the codes met before): a repeated MP attribute and nothing else, or an overrun and a missing
mandatory attribute -/
def blockFaults (hasNLRI : Bool) (junk : Bytes) (fo : List Spec.Attr × Bool) (seen : List UInt8) : List Err :=
  if fo.2 then [malformedAttrList]
  else (if junk = [] then [] else [totalAttrLenErr (junkCode junk)]) ++
    -- `.reverse ++ seen`: `PAState.seen` is consed; `missing?` only tests membership (`missing?_congr`)
    (missing? hasNLRI ((fo.1.map (·.code)).reverse ++ seen)).toList.map missingFault

theorem blockFaults_quiet (hasNLRI : Bool) (junk : Bytes) (fo : List Spec.Attr × Bool) (seen : List UInt8)
    (h : fo.2 = false) : ∀ e ∈ blockFaults hasNLRI junk fo seen, e.hasNotif = false := by
  intro e he
  simp only [blockFaults, h, Bool.false_eq_true, if_false, List.mem_append, List.mem_map] at he
  rcases he with he | ⟨c, _, rfl⟩
  · split at he
    · cases he
    · cases List.mem_singleton.1 he; rfl
  · rfl

def attrSteps (hasNLRI : Bool) (junk : Bytes) (as : List Spec.Attr) (seen : List UInt8) : List Step :=
  ((Spec.firstOccurrences as seen).1.map attrCall).map .call ++
    (blockFaults hasNLRI junk (Spec.firstOccurrences as seen) seen).map .fault

theorem fo_cons (a : Spec.Attr) (as : List Spec.Attr) (seen : List UInt8) :
    Spec.firstOccurrences (a :: as) seen =
      if seen.contains a.code then
        (if a.code = 14 ∨ a.code = 15 then ([], true) else Spec.firstOccurrences as seen)
      else (a :: (Spec.firstOccurrences as (a.code :: seen)).1, (Spec.firstOccurrences as (a.code :: seen)).2) := by
  rfl

theorem attrSteps_cons (hasNLRI : Bool) (junk : Bytes) (a : Spec.Attr) (as : List Spec.Attr) (seen : List UInt8) :
    attrSteps hasNLRI junk (a :: as) seen =
      if seen.contains a.code then
        (if a.code = 14 ∨ a.code = 15 then [.fault malformedAttrList] else attrSteps hasNLRI junk as seen)
      else .call (attrCall a) :: attrSteps hasNLRI junk as (a.code :: seen) := by
  simp only [attrSteps, blockFaults, fo_cons]
  by_cases hs : seen.contains a.code = true
  · by_cases hm : a.code = 14 ∨ a.code = 15
    · simp only [hs, hm, if_true]; rfl
    · simp only [hs, hm, if_true, if_false]
  · simp only [hs, Bool.false_eq_true, if_false, List.map_cons, List.reverse_cons, List.append_assoc, List.cons_append,
      List.nil_append]

theorem loopOn_run (cb : Callbacks) (hasNLRI : Bool) (junk : Bytes) : ∀ (as : List Spec.Attr) (st : PAState),
    finishAttrs hasNLRI (loopOn cb as junk st) =
      ((run cb (attrSteps hasNLRI junk as st.seen) st.calls).1,
       joinAll st.me (run cb (attrSteps hasNLRI junk as st.seen) st.calls).2) := by
  intro as
  induction as with
  | nil =>
    intro st
    have hq := blockFaults_quiet hasNLRI junk ([], false) st.seen rfl
    simp only [attrSteps, Spec.firstOccurrences, List.map_nil, List.nil_append, run_map_fault cb _ _ hq]
    simp only [loopOn, blockFaults, List.map_nil, List.reverse_nil, List.nil_append, Bool.false_eq_true, if_false]
    split <;> rfl
  | cons a as ih =>
    intro st
    rw [attrSteps_cons]
    unfold loopOn
    split
    · split
      · rfl
      · exact ih st
    · simp only [run, Step.err]
      cases cb st.calls (attrCall a) with
      | none => exact ih _
      | some e =>
        simp only
        split
        · rfl
        · exact ih _

theorem decodePathAttrs_run (cb : Callbacks) (calls : List Call) (b : Bytes) (hasNLRI : Bool) :
    decodePathAttrs cb calls b hasNLRI =
      ((run cb (attrSteps hasNLRI (Spec.parseAttrs b).2 (Spec.parseAttrs b).1 []) calls).1,
       joinAll none (run cb (attrSteps hasNLRI (Spec.parseAttrs b).2 (Spec.parseAttrs b).1 []) calls).2) := by
  rw [decodePathAttrs_eq, loopOn_run]

def tailSteps (w ab n : Bytes) : List Step :=
  .call (.wr w) ::
    (attrSteps (n.length > 0) (Spec.parseAttrs ab).2 (Spec.parseAttrs ab).1 [] ++ [.call (.nlri n)])

theorem decodeTail_run (cb : Callbacks) (w ab n : Bytes) :
    (decodeTail cb w ab n).1 = (run cb (tailSteps w ab n) []).1 ∧
    Flat (decodeTail cb w ab n).2 (run cb (tailSteps w ab n) []).2 := by
  have h0 : Flat (joinErr none (cb [] (.wr w))) (cb [] (.wr w)).toList := Flat.nil.join (.ofOption _)
  generalize hA : attrSteps (n.length > 0) (Spec.parseAttrs ab).2 (Spec.parseAttrs ab).1 [] = A
  have hp : Flat (joinAll none (run cb A [.wr w]).2) (run cb A [.wr w]).2 := Flat.nil.joinAll _
  have hrest : run cb (A ++ [.call (.nlri n)]) [.wr w] =
      if (run cb A [.wr w]).2.any Err.hasNotif then run cb A [.wr w]
      else ((run cb A [.wr w]).1 ++ [.nlri n], (run cb A [.wr w]).2 ++ (cb (run cb A [.wr w]).1 (.nlri n)).toList) := by
    rw [run_append, run_call]
  simp only [decodeTail, tailSteps, decodePathAttrs_run, hA, hp.hasNotif, run, Step.err, Step.after, List.nil_append,
    hrest]
  revert h0
  cases cb [] (Call.wr w) with
  | none =>
    intro h0
    by_cases hs : (run cb A [.wr w]).2.any Err.hasNotif = true
    · simp only [Option.any_none, Bool.false_eq_true, if_false, hs, if_true]
      exact ⟨trivial, by simpa using h0.joinIf hp⟩
    · simp only [Option.any_none, Bool.false_eq_true, if_false, hs]
      exact ⟨trivial, by simpa using (h0.joinIf hp).joinIf (.ofOption _)⟩
  | some e =>
    intro h0
    by_cases he : e.hasNotif = true
    · simp only [Option.any_some, he, if_true]
      exact ⟨trivial, h0⟩
    · by_cases hs : (run cb A [.wr w]).2.any Err.hasNotif = true
      · simp only [Option.any_some, he, Bool.false_eq_true, if_false, hs, if_true]
        exact ⟨trivial, h0.joinIf hp⟩
      · simp only [Option.any_some, he, Bool.false_eq_true, if_false, hs]
        exact ⟨trivial, by simpa using (h0.joinIf hp).joinIf (.ofOption _)⟩

/-- what `Decode` does with a body, whatever the callbacks answer -/
def script (b : Bytes) : List Step :=
  if b.length < 4 then [.fault (.notif genericUpdateNotif)]
  else match Spec.partition b with
    | none => [.fault malformedAttrList]
    | some (w, ab, n) => tailSteps w ab n

/-- for every callback function: the calls are those of the run of the script, and the returned
tree joins exactly the errors the run meets -/
theorem decodeUpdate_run (cb : Callbacks) (b : Bytes) :
    ∃ e, decodeUpdate cb b = .ok ((run cb (script b) []).1, e) ∧ Flat e (run cb (script b) []).2 := by
  rw [decodeUpdate_eq]
  unfold script
  split
  · exact ⟨_, rfl, .one _⟩
  · cases Spec.partition b with
    | none => exact ⟨_, rfl, .one _⟩
    | some t => exact ⟨_, congrArg _ (Prod.ext (decodeTail_run cb _ _ _).1 rfl), (decodeTail_run cb _ _ _).2⟩

def Quiet (cb : Callbacks) (calls : List Call) : Prop :=
  ∀ i c x, calls[i]? = some c → cb (calls.take i) c = some x → x.hasNotif = false

def QuietButLast (cb : Callbacks) (calls : List Call) : Prop :=
  ∀ i c x, i + 1 < calls.length → calls[i]? = some c → cb (calls.take i) c = some x → x.hasNotif = false

theorem quiet_nil (cb : Callbacks) : Quiet cb [] := by
  intro i c x h; simp at h

theorem Quiet.butLast {cb : Callbacks} {calls : List Call} (h : Quiet cb calls) : QuietButLast cb calls :=
  fun i c x _ hc hx => h i c x hc hx

theorem Quiet.snoc {cb : Callbacks} {calls : List Call} {c : Call} (h : Quiet cb calls)
    (hc : ∀ x, cb calls c = some x → x.hasNotif = false) : Quiet cb (calls ++ [c]) := by
  intro i c' x hi hx
  by_cases hlt : i < calls.length
  · rw [List.getElem?_append_left hlt] at hi
    rw [List.take_append_of_le_length (Nat.le_of_lt hlt)] at hx
    exact h i c' x hi hx
  · have hle : calls.length ≤ i := Nat.le_of_not_lt hlt
    rw [List.getElem?_append_right hle] at hi
    have : i - calls.length = 0 := by
      cases hk : i - calls.length with
      | zero => rfl
      | succ k => rw [hk] at hi; simp at hi
    have hieq : i = calls.length := by omega
    subst hieq
    simp at hi
    subst hi
    simp at hx
    exact hc x hx

theorem Quiet.snoc_butLast {cb : Callbacks} {calls : List Call} {c : Call} (h : Quiet cb calls) :
    QuietButLast cb (calls ++ [c]) := by
  intro i c' x hlt hi hx
  simp at hlt
  rw [List.getElem?_append_left hlt] at hi
  rw [List.take_append_of_le_length (Nat.le_of_lt hlt)] at hx
  exact h i c' x hi hx

theorem run_quiet (cb : Callbacks) : ∀ (ss : List Step) (calls : List Call), Quiet cb calls →
    QuietButLast cb (run cb ss calls).1 ∧
    ((run cb ss calls).2.any Err.hasNotif = false → Quiet cb (run cb ss calls).1) := by
  intro ss
  induction ss with
  | nil => exact fun calls hq => ⟨hq.butLast, fun _ => hq⟩
  | cons s ss ih =>
    intro calls hq
    cases s with
    | fault e =>
      simp only [run, Step.err, Step.after]
      split
      next h => exact ⟨hq.butLast, fun hh => by simp [h] at hh⟩
      next h => simpa [h] using ih calls hq
    | call c =>
      simp only [run, Step.err, Step.after]
      cases hc : cb calls c with
      | none => exact ih _ (hq.snoc (by simp [hc]))
      | some e =>
        simp only
        split
        next h => exact ⟨hq.snoc_butLast, fun hh => by simp [h] at hh⟩
        next h => simpa [h] using ih _ (hq.snoc (by simpa [hc] using h))

theorem run_calls_nil (cb : Callbacks) (hnil : ∀ h c, cb h c = none) (rest : List Step) :
    ∀ (cs calls : List Call), run cb (cs.map .call ++ rest) calls = run cb rest (calls ++ cs) := by
  intro cs
  induction cs with
  | nil => intro calls; simp
  | cons c cs ih =>
    intro calls
    simp only [List.map_cons, List.cons_append, run, Step.err, Step.after, hnil, ih, List.append_assoc,
      List.nil_append]

theorem run_tail_nil (cb : Callbacks) (hnil : ∀ h c, cb h c = none) (w ab n : Bytes) :
    run cb (tailSteps w ab n) [] =
      (.wr w :: ((Spec.firstOccurrences (Spec.parseAttrs ab).1 []).1.map attrCall ++
          if (Spec.firstOccurrences (Spec.parseAttrs ab).1 []).2 then [] else [.nlri n]),
        blockFaults (n.length > 0) (Spec.parseAttrs ab).2 (Spec.firstOccurrences (Spec.parseAttrs ab).1 []) []) := by
  simp only [tailSteps, attrSteps, run, Step.err, Step.after, hnil, List.nil_append, List.append_assoc]
  rw [run_calls_nil cb hnil]
  cases h : (Spec.firstOccurrences (Spec.parseAttrs ab).1 []).2 with
  | true => simp [blockFaults, h, run, Step.err, Step.after, malformedAttrList, Err.hasNotif]
  | false =>
    have hq := blockFaults_quiet (decide (n.length > 0)) (Spec.parseAttrs ab).2 _ [] h
    rw [run_append, run_map_fault cb _ _ hq, run_call, hnil]
    simp only [List.any_eq_true]
    rw [if_neg (by rintro ⟨e, he, hn⟩; rw [hq e he] at hn; cases hn)]
    simp

def faults (b : Bytes) : List Err := (script b).filterMap Step.fault?

theorem tailSteps_faults (w ab n : Bytes) :
    (tailSteps w ab n).filterMap Step.fault? =
      blockFaults (n.length > 0) (Spec.parseAttrs ab).2 (Spec.firstOccurrences (Spec.parseAttrs ab).1 []) [] := by
  simp only [tailSteps, attrSteps, List.filterMap_cons, List.filterMap_append, List.filterMap_map, Step.fault?,
    Function.comp_def]
  simp

theorem run_script_nil (cb : Callbacks) (hnil : ∀ h c, cb h c = none) (b : Bytes) :
    (run cb (script b) []).2 = faults b := by
  unfold faults script
  split
  · rfl
  · cases Spec.partition b with
    | none => rfl
    | some t => rw [run_tail_nil cb hnil, tailSteps_faults]

end Decode

end CoreBGP.Lemmas
