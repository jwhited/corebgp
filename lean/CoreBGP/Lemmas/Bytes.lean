import CoreBGP.Spec.Wire
/-!
Big-endian numerals and slices. `Spec.n16` / `Spec.n32` (octets to number) and `Spec.u16` / `Spec.u32` (number to
octets) are inverse to each other on the representable range; the model's `be16`, `be32`, `be16Bytes`, `be32Bytes`,
`len16` are the same functions through `UIntN.ofNat` / `toNat`. Every codec lemma that moves between octets and numbers
goes through these.
-/
namespace CoreBGP.Lemmas
open CoreBGP

theorem n16_lt (a b : UInt8) : Spec.n16 a b < 65536 := by
  have := a.toNat_lt; have := b.toNat_lt
  simp only [Spec.n16]; omega

theorem n32_lt (a b c d : UInt8) : Spec.n32 a b c d < 4294967296 := by
  have := a.toNat_lt; have := b.toNat_lt; have := c.toNat_lt; have := d.toNat_lt
  simp only [Spec.n32]; omega

theorem u16_n16 (a b : UInt8) : Spec.u16 (Spec.n16 a b) = [a, b] := by
  have hb := b.toNat_lt
  simp only [Spec.u16, Spec.n16, Nat.mul_comm a.toNat, Nat.mul_add_div (by decide : 256 > 0), Nat.mul_add_mod,
    Nat.div_eq_of_lt hb, Nat.mod_eq_of_lt hb, Nat.add_zero, UInt8.ofNat_toNat]

/-- Horner form: what `/ 256` and `% 256` peel off octet by octet -/
theorem n32_horner (a b c d : UInt8) :
    Spec.n32 a b c d = ((a.toNat * 256 + b.toNat) * 256 + c.toNat) * 256 + d.toNat := by
  simp only [Spec.n32]; omega

theorem u32_n32 (a b c d : UInt8) : Spec.u32 (Spec.n32 a b c d) = [a, b, c, d] := by
  have hb := b.toNat_lt; have hc := c.toNat_lt; have hd := d.toNat_lt
  have p : 0 < 256 := by decide
  simp only [Spec.u32, n32_horner, show 16777216 = 256 * 256 * 256 from rfl, show 65536 = 256 * 256 from rfl,
    ← Nat.div_div_eq_div_mul, Nat.add_comm _ d.toNat, Nat.add_comm _ c.toNat, Nat.add_comm _ b.toNat,
    Nat.add_mul_div_right _ _ p, Nat.add_mul_mod_self_right, Nat.div_eq_of_lt hd, Nat.div_eq_of_lt hc,
    Nat.div_eq_of_lt hb, Nat.mod_eq_of_lt hd, Nat.mod_eq_of_lt hc, Nat.mod_eq_of_lt hb, Nat.zero_add,
    UInt8.ofNat_toNat]

theorem n16_u16 (n : Nat) (h : n < 65536) : Spec.n16 (UInt8.ofNat (n / 256)) (UInt8.ofNat (n % 256)) = n := by
  simp only [Spec.n16, UInt8.toNat_ofNat', Nat.mod_mod]; omega

theorem u16_eq_cons {n : Nat} (h : n ≤ 65535) :
    ∃ x y, Spec.u16 n = [x, y] ∧ Spec.n16 x y = n :=
  ⟨_, _, rfl, n16_u16 n (by omega)⟩

theorem n32_u32 (n : Nat) (h : n < 4294967296) :
    Spec.n32 (UInt8.ofNat (n / 16777216)) (UInt8.ofNat (n / 65536 % 256)) (UInt8.ofNat (n / 256 % 256))
      (UInt8.ofNat (n % 256)) = n := by
  simp only [Spec.n32, UInt8.toNat_ofNat', Nat.mod_mod]
  rw [Nat.mod_eq_of_lt (by omega : n / 16777216 < 256)]
  -- the nested divisions spelt out, so that `omega` has only linear facts left
  have e2 := Nat.div_add_mod (n / 256) 256
  have e3 := Nat.div_add_mod (n / 256 / 256) 256
  rw [Nat.div_div_eq_div_mul] at e2 e3
  rw [Nat.div_div_eq_div_mul] at e3
  omega

theorem be16_toNat (a b : UInt8) : (be16 a b).toNat = Spec.n16 a b :=
  UInt16.toNat_ofNat_of_lt' (n16_lt a b)

theorem be32_toNat (a b c d : UInt8) : (be32 a b c d).toNat = Spec.n32 a b c d :=
  UInt32.toNat_ofNat_of_lt' (n32_lt a b c d)

theorem be16Bytes_eq (x : UInt16) : be16Bytes x = Spec.u16 x.toNat := rfl
theorem be32Bytes_eq (x : UInt32) : be32Bytes x = Spec.u32 x.toNat := rfl

theorem be32Bytes_be32 (a b c d : UInt8) : be32Bytes (be32 a b c d) = [a, b, c, d] := by
  rw [be32Bytes_eq, be32_toNat, u32_n32]

theorem ofNat_toNat8 (l : UInt8) : UInt8.ofNat l.toNat = l := UInt8.ofNat_toNat

theorem len16_toNat (n : Nat) (h : n < 65536) : (len16 n).toNat = n :=
  UInt16.toNat_ofNat_of_lt' h

/-- a length octet plus the two octets of a TLV header, where that does not wrap -/
theorem toNat_add2 (l : UInt8) (h : l.toNat + 2 < 256) : (l + 2).toNat = l.toNat + 2 := by
  rw [UInt8.toNat_add]
  exact Nat.mod_eq_of_lt h

theorem slice?_eq {b : Bytes} {i j : Nat} (h1 : i ≤ j) (h2 : j ≤ b.length) :
    slice? b i j = some ((b.drop i).take (j - i)) := if_pos ⟨h1, h2⟩

theorem sliceFrom?_eq {b : Bytes} {i : Nat} (h : i ≤ b.length) : sliceFrom? b i = some (b.drop i) := if_pos h

end CoreBGP.Lemmas
