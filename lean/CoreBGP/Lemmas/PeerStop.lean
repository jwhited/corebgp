import CoreBGP.Model.Peer
import CoreBGP.Lemmas.PeerLocal
import CoreBGP.Lemmas.PeerStep
import CoreBGP.Lemmas.Peer
/-! The second inductive invariant of the L2 peer model, for the shutdown properties (C10): what an absent or
finished FSM holds, and the `closeCh` protocol — an FSM is closed, or heads for `disabled`, only while the manager
is stopping it. It is preserved along the same steps as `PInv`, with `PInv` in hand. At the end, what C10's `progress`
needs of the model alone: a closed FSM that listens has a `closeCh` step (`fOnClose_progress`), and every instruction
but a join on an unfinished FSM can be executed once the peer is being stopped (`pInstr_progress`). -/
namespace CoreBGP.Lemmas.PeerStop
open CoreBGP CoreBGP.Model CoreBGP.Lemmas
open CoreBGP.Lemmas.PeerLocal

/-- the manager is about to stop FSM `i` -/
def stopHead (i : Dir) : List Instr → Prop
  | .disableLog j :: _ => j = i
  | .disable j :: _ => j = i
  | _ => False

/-- the manager is inside `fsm.stop()` of FSM `i` -/
def disHead (i : Dir) : List Instr → Prop
  | .disable j :: _ => j = i
  | _ => False

/-- the manager is about to echo `→ established` to the FSM other than `i` -/
def sendEstHead (i : Dir) : List Instr → Prop
  | .sendT j t :: _ => j = i.other ∧ t.to = .established
  | _ => False

/-- the manager is at the collision `select` of the FSM other than `i` -/
def collHead (i : Dir) : List Instr → Prop
  | .collSel j _ :: _ => j = i.other
  | _ => False

/-- a transition the manager handles or echoes is never one to `disabled` (that one is answered by joining the FSM) -/
def okI : Instr → Prop
  | .sendT _ t | .handle _ t | .collSel _ t => t.to ≠ .disabled
  | _ => True

/-- what may follow what in the continuation: a collision `select` and a `fsm.stop()` wait are only
ever at the head; an echo of `→ established` is directly preceded by the stop of the other FSM -/
def ok2 (a b : Instr) : Prop :=
  (∀ i t, b ≠ .collSel i t) ∧ (∀ i, b ≠ .disable i) ∧
  (∀ i t, b = .sendT i t → t.to = .established → a = .disableLog i.other ∨ a = .disable i.other)

def chain : List Instr → Prop
  | a :: b :: rest => ok2 a b ∧ chain (b :: rest)
  | _ => True

/-- what an absent or finished FSM holds (the rest of the slot bookkeeping is `FOk`) -/
structure XF (x : F) (pr : Bool) : Prop where
  abs : pr = false → x = {}
  doneH : x.pc = .done → x.conn = false ∧ x.dialing = false
  noRunDis : x.pc ≠ .run .disabled

/-- an FSM against the manager's continuation -/
structure TF (x : F) (pr : Bool) (st : St) (i : Dir) (td : List Instr) : Prop where
  disReq : toDis x.pc → stopHead i td
  closedH : x.closed = true → disHead i td
  disPres : disHead i td → pr = true
  headSend : sendEstHead i td → pr = false
  coll : collHead i td → st ≠ .established

/-- `fin`, `pd`: the manager finishes only after `peer.stop()` was called -/
structure SInv (s : PState) : Prop where
  x : ∀ i, XF (s.f i) (s.present i)
  t : ∀ i, TF (s.f i) (s.present i) (s.st i) i s.todo
  ok : ∀ ins ∈ s.todo, okI ins
  nest : chain s.todo
  fin : Instr.finish ∈ s.todo → s.pclosed = true
  pd : s.pdone = true → s.pclosed = true

attribute [local simp] toDis stopHead disHead sendEstHead collHead okI ok2 chain

theorem sinv_init (d p : Bool) : SInv (pInit d p) := by
  unfold pInit
  split <;>
  exact ⟨fun i => by cases i <;> exact ⟨by simp [PState.present, PState.f], nofun, nofun⟩,
    fun i => by cases i <;> exact ⟨nofun, nofun, nofun, nofun, nofun⟩, (fun _ h => nomatch h), trivial, nofun, nofun⟩

theorem chain_tail {a : Instr} {rest : List Instr} (h : chain (a :: rest)) : chain rest := by
  cases rest with
  | nil => simp
  | cons b r => exact h.2

theorem chain_swap {a b : Instr} {rest : List Instr} (h : chain (a :: rest))
    (ha : ∀ j, (a = .disableLog j ∨ a = .disable j) → (b = .disableLog j ∨ b = .disable j)) : chain (b :: rest) := by
  cases rest with
  | nil => simp
  | cons c r => exact ⟨⟨h.1.1, h.1.2.1, fun i t hc ht => ha _ (h.1.2.2 i t hc ht)⟩, h.2⟩

theorem chain_disHead {a : Instr} {rest : List Instr} (h : chain (a :: rest)) (i : Dir) : ¬ disHead i rest := by
  cases rest with
  | nil => simp
  | cons c r =>
    cases c <;> simp
    exact fun hh => h.1.2.1 _ (by rw [hh])

theorem chain_collHead {a : Instr} {rest : List Instr} (h : chain (a :: rest)) (i : Dir) : ¬ collHead i rest := by
  cases rest with
  | nil => simp
  | cons c r =>
    cases c <;> simp
    exact fun hh => h.1.1 _ _ rfl

theorem chain_sendEst {a : Instr} {rest : List Instr} (h : chain (a :: rest)) (i : Dir) (hs : sendEstHead i rest) :
    a = .disableLog i ∨ a = .disable i := by
  cases rest with
  | nil => simp at hs
  | cons c r =>
    cases c <;> simp at hs
    obtain ⟨rfl, ht⟩ := hs
    have := h.1.2.2 _ _ rfl ht
    cases i <;> simpa using this

/-- an empty slot against any continuation that was a tail -/
theorem TF.absent {st : St} {i : Dir} {a : Instr} {rest : List Instr} (hc : chain (a :: rest)) :
    TF {} false st i rest :=
  ⟨by simp, by simp, fun hd => absurd hd (chain_disHead hc i), fun _ => rfl, fun hd => absurd hd (chain_collHead hc i)⟩

theorem disHead_stopHead {i : Dir} {td : List Instr} (h : disHead i td) : stopHead i td := by
  cases td with
  | nil => exact h
  | cons a r => cases a <;> first | exact h | cases h

theorem toDis_ne_absent {pc : FPc} (h : toDis pc) : pc ≠ .absent := by
  rintro rfl
  exact h

theorem SInv.xf {s : PState} (h : SInv s) {i : Dir} (hx : (s.f i).pc ≠ .absent) {y : F}
    (hd : y.pc = .done → y.conn = false ∧ y.dialing = false) (hr : y.pc ≠ .run .disabled) : XF y (s.present i) :=
  ⟨fun e => absurd (congrArg F.pc ((h.x i).abs e)) hx, hd, hr⟩

/-- `h1`–`h5`: the fields of `TF` against the new continuation -/
theorem SInv.setTodo {s : PState} (h : SInv s) (l : List Instr)
    (h1 : ∀ i, stopHead i s.todo → (s.f i).pc ≠ .absent → stopHead i l) (h2 : ∀ i, disHead i s.todo → disHead i l)
    (h3 : ∀ i, disHead i l → s.present i = true) (h4 : ∀ i, sendEstHead i l → s.present i = false)
    (h5 : ∀ i, collHead i l → s.st i ≠ .established) (hok : ∀ ins ∈ l, okI ins) (hc : chain l)
    (hf : Instr.finish ∈ l → s.pclosed = true) : SInv { s with todo := l } :=
  ⟨h.x, fun i => ⟨fun e => h1 i ((h.t i).disReq e) (toDis_ne_absent e), fun e => h2 i ((h.t i).closedH e),
      h3 i, h4 i, h5 i⟩, hok, hc, hf, h.pd⟩

theorem SInv.setQuiet {s : PState} (h : SInv s) (l : List Instr) (h0 : ∀ i, ¬ stopHead i s.todo)
    (h3 : ∀ i, ¬ disHead i l) (h4 : ∀ i, ¬ sendEstHead i l) (h5 : ∀ i, collHead i l → s.st i ≠ .established)
    (hok : ∀ ins ∈ l, okI ins) (hc : chain l) (hf : Instr.finish ∈ l → s.pclosed = true) : SInv { s with todo := l } :=
  h.setTodo l (fun i e => absurd e (h0 i)) (fun i e => absurd (disHead_stopHead e) (h0 i)) (fun i e => absurd e (h3 i))
    (fun i e => absurd e (h4 i)) h5 hok hc hf

theorem SInv.setF {s : PState} (h : SInv s) (j : Dir) {y : F} (hx : XF y (s.present j))
    (h1 : toDis y.pc → stopHead j s.todo) (h2 : y.closed = true → disHead j s.todo) : SInv (s.setF j y) := by
  have ht := h.t j
  cases j
  · exact ⟨fun | .out => hx | .inn => h.x .inn,
      fun | .out => ⟨h1, h2, ht.disPres, ht.headSend, ht.coll⟩ | .inn => h.t .inn, h.ok, h.nest, h.fin, h.pd⟩
  · exact ⟨fun | .out => h.x .out | .inn => hx,
      fun | .out => h.t .out | .inn => ⟨h1, h2, ht.disPres, ht.headSend, ht.coll⟩, h.ok, h.nest, h.fin, h.pd⟩

theorem SInv.fstep {s : PState} (h : SInv s) (j : Dir) {l : Label} {y : F} (hs : FStep (s.f j) l y)
    (hx : (s.f j).pc ≠ .absent) (h1 : toDis y.pc → stopHead j s.todo) : SInv (applyCb l (s.setF j y)) := by
  have := h.setF j (h.xf hx hs.done fun e => (h.x j).noRunDis (hs.run _ e)) h1 fun e => (h.t j).closedH (hs.closed ▸ e)
  -- `SInv` reads neither `hist` nor `holdDown` nor `timerArmed`: field by field, `this` is the instance wanted
  rw [applyCb_eq]
  exact ⟨this.x, this.t, this.ok, this.nest, this.fin, this.pd⟩

theorem SInv.pop {s : PState} (h : SInv s) {a : Instr} {rest : List Instr} (ht : s.todo = a :: rest)
    (ha : ∀ j, a ≠ .disable j) (hdl : ∀ j, a = .disableLog j → s.present j = false) : SInv { s with todo := rest } := by
  have hc := h.nest
  rw [ht] at hc
  refine h.setTodo rest (fun i e hx => ?_) (fun i e => ?_) (fun i e => absurd e (chain_disHead hc i)) (fun i e => ?_)
    (fun i e => absurd e (chain_collHead hc i)) (fun ins hi => h.ok ins (ht ▸ List.mem_cons_of_mem _ hi)) (chain_tail hc)
    (fun hf => h.fin (ht ▸ List.mem_cons_of_mem _ hf))
  · rw [ht] at e
    cases a <;> simp at e
    · subst e
      rw [(h.x _).abs (hdl _ rfl)] at hx
      exact absurd rfl hx
    · exact absurd (by rw [e]) (ha i)
  · rw [ht] at e
    cases a <;> simp at e
    exact absurd (by rw [e]) (ha i)
  · rcases chain_sendEst hc i e with rfl | rfl
    · exact hdl i rfl
    · exact absurd rfl (ha i)

theorem SInv.setSlot {s : PState} (h : SInv s) {a : Instr} {rest : List Instr} (ht : s.todo = a :: rest)
    (i : Dir) (b : Bool) {y : F} (hx : XF y b) (tfi : ∀ st, TF y b st i rest) (ha : ∀ k, stopHead k (a :: rest) → k = i) :
    SInv ((({ s with todo := rest }.setPresent i b).setSt i .disabled).setF i y) := by
  have hc := h.nest
  rw [ht] at hc
  have hok : ∀ ins ∈ rest, okI ins := fun ins hi => h.ok ins (ht ▸ List.mem_cons_of_mem _ hi)
  have hf : Instr.finish ∈ rest → s.pclosed = true := fun hf => h.fin (ht ▸ List.mem_cons_of_mem _ hf)
  have old : ∀ k, k ≠ i → TF (s.f k) (s.present k) (s.st k) k rest := fun k hk =>
    ⟨fun e => absurd (ha k (ht ▸ (h.t k).disReq e)) hk,
      fun e => absurd (ha k (ht ▸ disHead_stopHead ((h.t k).closedH e))) hk, fun e => absurd e (chain_disHead hc k),
      fun e => absurd (ha k ((chain_sendEst hc k e).elim (· ▸ rfl) (· ▸ rfl))) hk, fun e => absurd e (chain_collHead hc k)⟩
  cases i
  · exact ⟨fun | .out => hx | .inn => h.x .inn, fun | .out => tfi _ | .inn => old .inn nofun, hok, chain_tail hc, hf, h.pd⟩
  · exact ⟨fun | .out => h.x .out | .inn => hx, fun | .out => old .out nofun | .inn => tfi _, hok, chain_tail hc, hf, h.pd⟩

theorem SInv.echo {s : PState} (h : SInv s) {i : Dir} {t t0 : Trans} {rest : List Instr}
    (ht : s.todo = .sendT i t :: rest) (hpc : (s.f i).pc = .wait t0) :
    SInv (({ s with todo := .logT i t.frm t.to :: rest }.setSt i t.to).setF i { s.f i with pc := .run t.to }) := by
  have hc := h.nest
  have hok := h.ok
  have hfin := h.fin
  have hq : ∀ k, ¬ stopHead k s.todo := fun k => by rw [ht]; exact id
  have hd : ∀ k, ¬ disHead k s.todo := fun k => by rw [ht]; exact id
  rw [ht] at hc hok hfin
  have hto : t.to ≠ .disabled := hok _ (List.mem_cons_self ..)
  have tf : ∀ k, TF (s.f k) (s.present k) (s.st k) k (.logT i t.frm t.to :: rest) := fun k =>
    ⟨fun e => absurd ((h.t k).disReq e) (hq k), fun e => absurd ((h.t k).closedH e) (hd k), nofun, nofun, nofun⟩
  have hx : XF { s.f i with pc := .run t.to } (s.present i) :=
    h.xf (by rw [hpc]; nofun) nofun fun e => hto (FPc.run.inj e)
  have tfi : ∀ st, TF { s.f i with pc := .run t.to } (s.present i) st i (.logT i t.frm t.to :: rest) := fun st =>
    ⟨nofun, fun e => absurd ((h.t i).closedH e) (hd i), nofun, nofun, nofun⟩
  have hok' : ∀ ins ∈ Instr.logT i t.frm t.to :: rest, okI ins :=
    List.forall_mem_cons.2 ⟨trivial, (List.forall_mem_cons.1 hok).2⟩
  have hc' : chain (.logT i t.frm t.to :: rest) := chain_swap hc fun j e => by rcases e with e | e <;> cases e
  have hf' : Instr.finish ∈ Instr.logT i t.frm t.to :: rest → s.pclosed = true := fun e => by
    rcases List.mem_cons.1 e with e | e
    · cases e
    · exact hfin (List.mem_cons_of_mem _ e)
  cases i
  · exact ⟨fun | .out => hx | .inn => h.x .inn, fun | .out => tfi _ | .inn => tf .inn, hok', hc', hf', h.pd⟩
  · exact ⟨fun | .out => h.x .out | .inn => hx, fun | .out => tf .out | .inn => tfi _, hok', hc', hf', h.pd⟩

theorem sinv_main {s s' : PState} {l : Label} (h : SInv s) (ht : s.todo = []) (hm : MainStep s l s') : SInv s' := by
  have h0 : ∀ i, ¬ stopHead i s.todo := fun i => by rw [ht]; exact id
  have hd0 : ∀ i, ¬ disHead i s.todo := fun i => by rw [ht]; exact id
  cases hm with
  | stop hc => exact h.setQuiet _ h0 (fun _ => id) (fun _ => id) (fun _ => nofun) (by simp) (by simp) (fun _ => hc)
  | req i t hpc =>
    have hto : t.to ≠ .disabled := fun e => h0 i ((h.t i).disReq (by rw [hpc]; exact e))
    exact (h.setQuiet [.handle i t] h0 (fun _ => id) (fun _ => id) (fun _ => nofun) (by simpa using hto) trivial
      nofun).setF i (h.xf (by rw [hpc]; nofun) nofun nofun) nofun fun e => absurd ((h.t i).closedH e) (hd0 i)
  | err i st d k hpc =>
    have hto : d ≠ .disabled := fun e => h0 i ((h.t i).disReq (by rw [hpc]; exact e))
    have := h.setF i (y := { s.f i with pc := .req ⟨st, d⟩ }) (h.xf (by rw [hpc]; nofun) nofun nofun)
      (fun e => absurd e hto) fun e => absurd ((h.t i).closedH e) (hd0 i)
    have ht' : (s.setF i { s.f i with pc := .req ⟨st, d⟩ }).todo = [] := (setF_todo ..).trans ht
    refine this.setQuiet _ (fun i => ht' ▸ id) (fun i e => nomatch e) (fun i e => nomatch e) (fun i e => nomatch e)
      ?_ ?_ ?_ <;> split <;> simp
  | timer =>
    have := h.setQuiet [.enable .out false] h0 (fun _ => id) (fun _ => id) (fun _ => nofun) (by simp) trivial nofun
    exact ⟨this.x, this.t, this.ok, this.nest, this.fin, this.pd⟩
  | refuse => exact h
  | accept => exact h.setQuiet _ h0 (fun _ => id) (fun _ => id) (fun _ => nofun) (by simp) trivial nofun

theorem expandHandle_okI (s : PState) (i : Dir) (t : Trans) (ht : t.to ≠ .disabled) :
    (∀ k, ¬ disHead k (expandHandle s i t)) ∧ (∀ k, ¬ sendEstHead k (expandHandle s i t)) ∧
      (∀ k, collHead k (expandHandle s i t) → s.st k ≠ .established) ∧ (∀ ins ∈ expandHandle s i t, okI ins) ∧
      chain (expandHandle s i t) ∧ Instr.finish ∉ expandHandle s i t := by
  rcases expandHandle_cases s i t with ⟨-, h⟩ | ⟨he, ⟨-, -, h⟩ | h | ⟨-, h⟩ | ⟨ho, -, h⟩⟩ <;> rw [h]
  case inr.inr.inr.inr =>
    refine ⟨by simp, by simp, ?_, by simp [ht], by simp, by simp⟩
    rintro k rfl
    rw [other_other] at ho
    rw [ho]
    nofun
  all_goals simp [*]

theorem sinv_instr {p : Bool} {s s' : PState} {l : Label} {ins : Instr} {rest : List Instr} (hp : PInv p s) (h : SInv s)
    (ht : s.todo = ins :: rest) (hi : InstrStep s rest ins l s') : SInv s' := by
  have hc := h.nest
  have hok := h.ok
  have hfin := h.fin
  rw [ht] at hc hok hfin
  have hokr : ∀ ins ∈ rest, okI ins := fun ins hi => hok ins (List.mem_cons_of_mem _ hi)
  have hfr : Instr.finish ∈ rest → s.pclosed = true := fun hf => hfin (List.mem_cons_of_mem _ hf)
  have h0 : (∀ k, ¬ stopHead k (ins :: rest)) → ∀ k, ¬ stopHead k s.todo := fun e => ht ▸ e
  cases hi with
  | logT | logErr | sendSkip | enableSkip | collSkip => exact h.pop ht (fun _ => nofun) (fun _ => nofun)
  | dlSkip i hpr => exact h.pop ht (fun _ => nofun) (fun j e => by cases e; exact hpr)
  | handle i t =>
    obtain ⟨-, -, rfl, -⟩ := hp.okT_head ht
    obtain ⟨a, b, c, d, e, f⟩ := expandHandle_okI s i t (hok _ (List.mem_cons_self ..))
    rw [List.append_nil]
    exact h.setQuiet _ (h0 fun _ => id) a b c d e (fun e => absurd e f)
  | echo i t t0 hpc =>
    rw [if_neg (hok _ (List.mem_cons_self ..))]
    exact h.echo ht hpc
  | dlLog i hpr =>
    refine h.setTodo _ (fun k e _ => by rw [ht] at e; exact e) (fun k e => by rw [ht] at e; cases e) (fun k e => ?_)
      (fun _ => nofun) (fun _ => nofun) (List.forall_mem_cons.2 ⟨trivial, hokr⟩) (chain_swap hc fun j e => ?_)
      (fun hf => ?_)
    · cases (show i = k from e); exact hpr
    · rcases e with e | e <;> cases e
      exact .inr rfl
    · rcases List.mem_cons.1 hf with hf | hf
      · cases hf
      · exact hfr hf
  | close i =>
    have hpr := (h.t i).disPres (by rw [ht]; exact rfl)
    exact h.setF i ⟨fun e => absurd (hpr.symm.trans e) nofun, (h.x i).doneH, (h.x i).noRunDis⟩ (h.t i).disReq
      (fun _ => by rw [ht]; exact rfl)
  | join i => exact h.setSlot ht i false ⟨fun _ => rfl, nofun, nofun⟩ (fun _ => .absent hc) (fun k e => e.symm)
  | create i w =>
    refine h.setSlot ht i true ⟨nofun, nofun, nofun⟩ (fun _ => ⟨fun e => ?_, nofun, fun e => absurd e (chain_disHead hc i),
      fun e => ?_, fun e => absurd e (chain_collHead hc i)⟩) (fun k e => nomatch e)
    · cases w <;> cases e
    · rcases chain_sendEst hc i e with e | e <;> cases e
  | damp =>
    obtain ⟨-, -, -, rfl⟩ := hp.okT_head ht
    have := h.setQuiet [] (h0 fun _ => id) (fun _ => id) (fun _ => id) (fun _ => nofun) (fun _ h => nomatch h) trivial nofun
    exact ⟨this.x, this.t, this.ok, this.nest, this.fin, this.pd⟩
  | finish =>
    obtain ⟨-, -, -, rfl⟩ := hp.okT_head ht
    have := h.setQuiet [] (h0 fun _ => id) (fun _ => id) (fun _ => id) (fun _ => nofun) (fun _ h => nomatch h) trivial nofun
    exact ⟨this.x, this.t, this.ok, this.nest, this.fin, fun _ => hfin (List.mem_cons_self ..)⟩
  | @kill i t l o' hl hcl hm =>
    obtain ⟨rfl, -⟩ := hp.coll_head ht
    have hx : (s.f i.other).pc ≠ .absent := fun e => by rw [e] at hl; cases hl
    obtain ⟨hs, -⟩ := fOnClose_step _ hm
    refine (h.setQuiet [.disableLog i.other, .sendT i t] (h0 fun _ => id) (fun _ => id) (fun _ => id) (fun _ => nofun) ?_
      (by simp) (by simp)).setF i.other (h.xf hx hs.done fun e => (h.x _).noRunDis (hs.run _ e)) (fun _ => rfl)
      (fun e => absurd (hcl.symm.trans (hs.closed.symm.trans e)) nofun)
    simpa using hok _ (List.mem_cons_self ..)
  | collRecv i t ot hpc =>
    obtain ⟨rfl, hto, -⟩ := hp.coll_head ht
    have hot : ot.to ≠ .disabled := fun e => by
      have := (h.t i.other).disReq (by rw [hpc]; exact e)
      rw [ht] at this
      cases this
    rw [List.append_nil]
    refine (h.setQuiet _ (h0 fun _ => id) ?_ ?_ ?_ ?_ ?_ ?_).setF i.other (h.xf (by rw [hpc]; nofun) nofun nofun) nofun
      (fun e => by have := (h.t i.other).closedH e; rw [ht] at this; cases this)
    all_goals split
    all_goals simp [hto, hot]

theorem sinv_step {p : Bool} {s s' : PState} {l : Label} (hp : PInv p s) (h : SInv s) (hs : PStep s l s') : SInv s' := by
  cases hs with
  | main ht _ hm => exact sinv_main h ht hm
  | instr ht hi => exact sinv_instr hp h ht hi
  | fclose i hc hl hm =>
    exact h.fstep i (fOnClose_step _ hm).1 (fun e => by rw [e] at hl; cases hl)
      fun _ => disHead_stopHead ((h.t i).closedH hc)
  | frun i st hpc hm =>
    have := runOutcomes_step hpc _ hm
    exact h.fstep i this.1 (by rw [hpc]; nofun) fun e => absurd e this.2.1
  | apiStop => exact ⟨h.x, h.t, h.ok, h.nest, fun _ => rfl, fun _ => rfl⟩
  | rsend i m hc =>
    have hpr : s.present i = true := by
      cases hh : s.present i
      · rw [(h.x i).abs hh] at hc; cases hc
      · rfl
    exact h.setF i ⟨fun e => absurd (hpr.symm.trans e) nofun, (h.x i).doneH, (h.x i).noRunDis⟩ (h.t i).disReq
      (h.t i).closedH
  | lost => exact h

theorem sinv_reachable {d p : Bool} {s : PState} (h : PReach d p s) : SInv s := by
  induction h with
  | init => exact sinv_init d p
  | step hr hm ih => exact sinv_step (pinv_reachable hr) ih (.of_mem hm)

@[simp] theorem setF_present (s : PState) (i j : Dir) (x : F) : (s.setF i x).present j = s.present j := by
  cases i <;> cases j <;> rfl
@[simp] theorem setF_st (s : PState) (i j : Dir) (x : F) : (s.setF i x).st j = s.st j := by
  cases i <;> cases j <;> rfl

theorem fOnClose_progress (i : Dir) (x : F) (h1 : x.pc ≠ .absent) (h2 : x.pc ≠ .done) (h3 : x.pc ≠ .run .disabled) :
    x.pc.listensClose = true ∧
    (fOnClose i x ++ (if x.pc = FPc.run St.established && !x.inEst then [(Label.onEstablished i, { x with inEst := true })] else [])) ≠ [] := by
  obtain ⟨pc, closed, conn, dialing, inEst, veto, inq⟩ := x
  cases pc with
  | absent => simp at h1
  | done => simp at h2
  | req t => simp [fOnClose, FPc.listensClose]
  | wait t => simp [fOnClose, FPc.listensClose]
  | errSend a b k => simp [fOnClose, FPc.listensClose]
  | run s0 => cases s0 <;> cases inEst <;> simp_all [fOnClose, FPc.listensClose]

theorem pInstr_progress (s : PState) (ins : Instr) (rest : List Instr) (hc : s.pclosed = true)
    (hi : ∀ i, ins = .disable i → (s.f i).closed = false ∨ (s.f i).pc = .done) : pInstr s ins rest ≠ [] := by
  cases ins with
  | disable i =>
    rcases hi i rfl with h | h
    · simp [pInstr, h]
    · simp [pInstr, h]
  | disableLog i => simp only [pInstr]; split <;> simp
  | enable i c => simp only [pInstr]; split <;> simp
  | _ => simp [pInstr, hc]

end CoreBGP.Lemmas.PeerStop
