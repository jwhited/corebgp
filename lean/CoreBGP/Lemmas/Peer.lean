import CoreBGP.Model.Peer
import CoreBGP.Lemmas.PeerLocal
import CoreBGP.Lemmas.PeerStep
/-! The inductive invariant `PInv` of the L2 model: the manager's bookkeeping against the two FSMs, a static check of its
continuation, mutual exclusion of the Established sessions, the plugin-history ghost, the hold-down.
Preservation is proved per kind of update (continuation, one FSM, one slot), the steps by `cases` on
`PStep`. At the end `follow` / `exists_of_follow`: a reachable state exhibited by a list of choices (for the witnesses in
the property modules). -/
namespace CoreBGP.Lemmas
open CoreBGP CoreBGP.Model
open CoreBGP.Lemmas.PeerLocal

/-- what the manager's bookkeeping (`present`, `st`) says about one FSM -/
structure FOk (x : F) (present : Bool) (st : St) : Prop where
  empty : present = false → x.pc = .absent ∧ st = .disabled
  pres : present = true → x.pc ≠ .absent
  inEst_run : x.inEst = true → x.pc = .run .established
  run_st : ∀ r, x.pc = .run r → st = r

/-- static check of the manager's continuation; `e i` = "slot `i` is known to be empty when the head
instruction starts". The collision `select` is never part of a longer continuation (see `TodoOk`). -/
def okT (e : Dir → Bool) : List Instr → Prop
  | [] => True
  | .logT _ _ _ :: rest | .logErr _ :: rest => okT e rest
  | .handle i t :: rest => rest = [] ∧ (i = .inn → innT t)
  -- `→ established` is echoed only once the other FSM has been stopped; an inbound FSM is never sent to Idle / Connect
  | .sendT i t :: rest =>
    (t.to = .established → e i.other = true) ∧ (i = .inn → t.to ≠ .idle ∧ t.to ≠ .connect) ∧ okT e rest
  | .disableLog i :: rest | .disable i :: rest => okT (fun j => j = i || e j) rest
  -- an inbound FSM is created holding its connection
  | .enable i w :: rest => (i = .inn → w = true) ∧ okT (fun j => j != i && e j) rest
  | .collSel _ _ :: _ => False
  -- the hold-down starts, and `peer.run` returns, with both FSMs stopped
  | .damp :: rest | .finish :: rest => (∀ i, e i = true) ∧ rest = []

/-- `e` is existential so that consuming the head instruction just hands on the set `okT`'s own recursion computes:
no monotonicity of `okT` in `e` is needed -/
def TodoOk (present : Dir → Bool) (st : Dir → St) (l : List Instr) : Prop :=
  (∃ i t, l = [.collSel i t] ∧ t.to = .openConfirm ∧ st i.other ≠ .established) ∨
  ∃ e : Dir → Bool, (∀ i, e i = true → present i = false) ∧ okT e l

def stopLike : Instr → Bool
  | .disableLog _ | .finish => true
  | _ => false

/-- `pas_out`: a passive peer has no outbound FSM. `ok`: `p.fsms` / `p.fsmState` against the FSMs themselves. `inn`: the
inbound FSM is never in, or on its way to, Idle or Connect (so it never dials). `mutex`: `p.fsmState` is never
Established twice. `hist_ok`: the plugin-history monitor is `up` exactly while an FSM is inside its session. `hold`: while
`inHoldDown` both slots are empty and only stops are pending. `timer`: `inHoldDown` ⇔ `startupDelayTimer` armed. `done`:
once `p.doneCh` is closed nothing is pending and both slots are empty. -/
structure PInv (p : Bool) (s : PState) : Prop where
  pas : s.passive = p
  pas_out : s.passive = true → s.present .out = false
  ok : ∀ i, FOk (s.f i) (s.present i) (s.st i)
  inn : innPc (s.f .inn).pc
  todo_ok : TodoOk s.present s.st s.todo
  mutex : ¬ (s.st .out = .established ∧ s.st .inn = .established)
  hist_ok : s.hist = some (if (s.f .out).inEst || (s.f .inn).inEst then .up else .idle)
  hold : s.holdDown = true → (∀ i, s.present i = false) ∧ s.todo.all stopLike = true
  timer : s.pdone = false → s.holdDown = s.timerArmed
  done : s.pdone = true → s.todo = [] ∧ ∀ i, s.present i = false

theorem pinv_init (d p : Bool) : PInv p (pInit d p) := by
  unfold pInit
  cases p <;>
  exact ⟨rfl, by simp [PState.present], fun i => by cases i <;> constructor <;> simp [PState.f, PState.present, PState.st],
    trivial, .inr ⟨fun _ => false, nofun, trivial⟩, nofun, rfl, nofun, fun _ => rfl, nofun⟩

theorem FOk.inEst_false_of_pc {x : F} {p : Bool} {st : St} (h : FOk x p st) (hpc : x.pc ≠ .run .established) :
    x.inEst = false :=
  Bool.eq_false_iff.2 fun hi => hpc (h.inEst_run hi)

theorem FOk.inEst_false {x : F} {p : Bool} {st : St} (h : FOk x p st) (hst : st ≠ .established) : x.inEst = false :=
  h.inEst_false_of_pc fun hr => hst (h.run_st _ hr)

theorem PInv.est_excl {p : Bool} {s : PState} (h : PInv p s) (i : Dir) (hi : s.st i = .established) :
    (s.f i.other).inEst = false :=
  (h.ok i.other).inEst_false fun ho => h.mutex (by cases i <;> exact ⟨‹_›, ‹_›⟩)

theorem PInv.pdone_false {p : Bool} {s : PState} (h : PInv p s) {ins : Instr} {rest : List Instr}
    (ht : s.todo = ins :: rest) : s.pdone = false :=
  Bool.eq_false_iff.2 fun hd => nomatch ht.symm.trans (h.done hd).1

theorem PInv.holdDown_false_of_head {p : Bool} {s : PState} (h : PInv p s) {ins : Instr} {rest : List Instr}
    (ht : s.todo = ins :: rest) (hs : stopLike ins = false) : s.holdDown = false :=
  Bool.eq_false_iff.2 fun hd => by
    have := (h.hold hd).2
    rw [ht, List.all_cons, hs] at this
    cases this

theorem PInv.setTodo {p : Bool} {s : PState} (h : PInv p s) (l : List Instr) (hok : TodoOk s.present s.st l)
    (hhold : s.holdDown = true → l.all stopLike = true) (hd : s.pdone = false) : PInv p { s with todo := l } :=
  ⟨h.pas, h.pas_out, h.ok, h.inn, hok, h.mutex, h.hist_ok, fun hh => ⟨(h.hold hh).1, hhold hh⟩, h.timer,
    fun hd' => absurd (hd.symm.trans hd') nofun⟩

theorem PInv.setF {p : Bool} {s : PState} (h : PInv p s) (i : Dir) {y : F} (hy : FOk y (s.present i) (s.st i))
    (hinn : i = .inn → innPc y.pc) (he : y.inEst = (s.f i).inEst) : PInv p (s.setF i y) := by
  cases i
  · exact ⟨h.pas, h.pas_out, fun | .out => hy | .inn => h.ok .inn, h.inn, h.todo_ok, h.mutex,
      he ▸ h.hist_ok, h.hold, h.timer, h.done⟩
  · exact ⟨h.pas, h.pas_out, fun | .out => h.ok .out | .inn => hy, hinn rfl, h.todo_ok, h.mutex,
      he ▸ h.hist_ok, h.hold, h.timer, h.done⟩

theorem PInv.setSlot {p : Bool} {s : PState} (h : PInv p s) (i : Dir) (b : Bool) {y : F} (l : List Instr)
    (hy : FOk y b .disabled) (hinn : i = .inn → innPc y.pc) (hye : y.inEst = (s.f i).inEst)
    (hpas : i = .out → s.passive = true → b = false) {e : Dir → Bool}
    (he : ∀ j, e j = true → if j = i then b = false else s.present j = false) (hok : okT e l)
    (hh : s.holdDown = false) (hd : s.pdone = false) :
    PInv p ((({ s with todo := l }.setPresent i b).setSt i .disabled).setF i y) := by
  have hh' : ∀ {q : Prop}, s.holdDown = true → q := fun e => absurd (hh.symm.trans e) nofun
  have hd' : ∀ {q : Prop}, s.pdone = true → q := fun e => absurd (hd.symm.trans e) nofun
  cases i
  · exact ⟨h.pas, hpas rfl, fun | .out => hy | .inn => h.ok .inn, h.inn,
      .inr ⟨e, fun | .out => he .out | .inn => he .inn, hok⟩, (fun hm => nomatch hm.1), hye ▸ h.hist_ok,
      hh', h.timer, hd'⟩
  · exact ⟨h.pas, h.pas_out, fun | .out => h.ok .out | .inn => hy, hinn rfl,
      .inr ⟨e, fun | .out => he .out | .inn => he .inn, hok⟩, (fun hm => nomatch hm.2), hye ▸ h.hist_ok,
      hh', h.timer, hd'⟩

/-- both orders of `||`: the FSM that moves is the left operand of `hist_ok` if it is `.out`, the right one if `.inn` -/
theorem hist_step {l : Label} {s : PState} {a a' b : Bool} (he : cbEffect l a a')
    (hb : a = true → b = false) (hb' : a' = true → b = false) :
    (s.hist = some (if a || b then .up else .idle) → (applyCb l s).hist = some (if a' || b then .up else .idle)) ∧
    (s.hist = some (if b || a then .up else .idle) → (applyCb l s).hist = some (if b || a' then .up else .idle)) := by
  cases l <;> simp only [cbEffect] at he
  case onEstablished | onClose | handler =>
    obtain ⟨rfl, rfl⟩ := he
    first | cases hb rfl | cases hb' rfl
    simp +contextual [applyCb, PState.cb, Spec.hstep]
  all_goals exact he ▸ ⟨id, id⟩

theorem FOk.step {x y : F} {p : Bool} {st : St} {l : Label} (h : FOk x p st) (hs : FStep x l y) (hx : x.pc ≠ .absent) :
    FOk y p st :=
  ⟨fun hp => absurd (h.empty hp).1 hx, fun _ => hs.pres, hs.inEst_run h.inEst_run, fun r hr => h.run_st r (hs.run r hr)⟩

theorem PInv.fstep {p : Bool} {s : PState} (h : PInv p s) (i : Dir) {l : Label} {y : F} (hs : FStep (s.f i) l y)
    (hx : (s.f i).pc ≠ .absent) : PInv p (applyCb l (s.setF i y)) := by
  have hy := (h.ok i).step hs hx
  have hh := hist_step (s := s.setF i y) (b := (s.f i.other).inEst) hs.cb
    (fun e => h.est_excl i ((h.ok i).run_st _ ((h.ok i).inEst_run e)))
    (fun e => h.est_excl i (hy.run_st _ (hy.inEst_run e)))
  rw [applyCb_eq]
  cases i
  · exact ⟨h.pas, h.pas_out, fun | .out => hy | .inn => h.ok .inn, h.inn, h.todo_ok, h.mutex, hh.1 h.hist_ok,
      h.hold, h.timer, h.done⟩
  · exact ⟨h.pas, h.pas_out, fun | .out => h.ok .out | .inn => hy, hs.inn h.inn, h.todo_ok, h.mutex, hh.2 h.hist_ok,
      h.hold, h.timer, h.done⟩

theorem FOk.set_pc {x : F} {p : Bool} {st : St} (h : FOk x p st) {pc' : FPc} (hx : x.pc ≠ .absent)
    (hne : ∀ r, x.pc ≠ .run r) (hnew : pc' ≠ .absent) (hnr : ∀ r, pc' ≠ .run r) : FOk { x with pc := pc' } p st :=
  ⟨fun hp => absurd (h.empty hp).1 hx, fun _ => hnew, fun hi => absurd (h.inEst_run hi) (hne _),
    fun r hr => absurd hr (hnr r)⟩

theorem PInv.holdDown_false_of_present {p : Bool} {s : PState} (h : PInv p s) {i : Dir} (hx : (s.f i).pc ≠ .absent) :
    s.holdDown = false :=
  Bool.eq_false_iff.2 fun hh => hx ((h.ok i).empty ((h.hold hh).1 i)).1

theorem PInv.innPc_of {p : Bool} {s : PState} (h : PInv p s) {i : Dir} {pc : FPc} (hi : i = .inn)
    (hpc : (s.f i).pc = pc) : innPc pc := by
  subst hi hpc
  exact h.inn

theorem pinv_main {p : Bool} {s s' : PState} {l : Label} (h : PInv p s) (hd : s.pdone = false)
    (hm : MainStep s l s') : PInv p s' := by
  cases hm with
  | stop =>
    exact h.setTodo _ (.inr ⟨fun _ => false, fun _ => nofun, And.intro (fun i => by cases i <;> rfl) rfl⟩)
      (fun _ => rfl) hd
  | req i t hpc =>
    have hx : (s.f i).pc ≠ .absent := by rw [hpc]; nofun
    have hi : i = .inn → innT t := fun hi => h.innPc_of hi hpc
    refine (h.setTodo [.handle i t] (.inr ⟨fun _ => false, fun _ => nofun, And.intro rfl hi⟩) (fun hh => ?_) hd).setF i
      ((h.ok i).set_pc hx (by rw [hpc]; nofun) nofun nofun) hi rfl
    cases (h.holdDown_false_of_present hx).symm.trans hh
  | err i st d k hpc =>
    have hx : (s.f i).pc ≠ .absent := by rw [hpc]; nofun
    refine (h.setF i ((h.ok i).set_pc (pc' := .req ⟨st, d⟩) hx (by rw [hpc]; nofun) nofun nofun)
      (fun hi => show innPc (.errSend st d k) from h.innPc_of hi hpc) rfl).setTodo _
      (.inr ⟨fun _ => false, fun _ => nofun, ?_⟩) (fun hh => ?_) ((setF_pdone ..).trans hd)
    · show okT _ (if _ then _ else _)
      split
      · exact ⟨fun i => by cases i <;> rfl, rfl⟩
      · trivial
    · cases (h.holdDown_false_of_present hx).symm.trans ((setF_holdDown ..).symm.trans hh)
  | timer => exact ⟨h.pas, h.pas_out, h.ok, h.inn, .inr ⟨fun _ => false, fun _ => nofun, nofun, trivial⟩, h.mutex,
      h.hist_ok, nofun, fun _ => rfl, fun e => absurd (hd.symm.trans e) nofun⟩
  | refuse => exact h
  | accept hc =>
    refine h.setTodo _ (.inr ⟨fun _ => false, fun _ => nofun, fun _ => rfl, trivial⟩) (fun hh => ?_) hd
    rw [hh] at hc
    cases hc

theorem PInv.okT_head {p : Bool} {s : PState} (h : PInv p s) {ins : Instr} {rest : List Instr}
    (ht : s.todo = ins :: rest) (hc : ∀ i t, ins ≠ .collSel i t := by exact fun _ _ => nofun) :
    ∃ e : Dir → Bool, (∀ i, e i = true → s.present i = false) ∧ okT e (ins :: rest) := by
  rcases h.todo_ok with ⟨i, t, hl, -⟩ | hr
  · cases (ht.symm.trans hl)
    exact absurd rfl (hc i t)
  · exact ht ▸ hr

theorem PInv.coll_head {p : Bool} {s : PState} (h : PInv p s) {i : Dir} {t : Trans} {rest : List Instr}
    (ht : s.todo = .collSel i t :: rest) : rest = [] ∧ t.to = .openConfirm ∧ s.st i.other ≠ .established := by
  rcases h.todo_ok with ⟨i', t', hl, hto, hst⟩ | ⟨e, -, hok⟩
  · cases ht.symm.trans hl
    exact ⟨rfl, hto, hst⟩
  · rw [ht] at hok
    exact hok.elim

theorem PInv.pop {p : Bool} {s : PState} (h : PInv p s) {ins : Instr} {rest : List Instr} (ht : s.todo = ins :: rest)
    {e : Dir → Bool} (he : ∀ i, e i = true → s.present i = false) (hok : okT e rest) : PInv p { s with todo := rest } :=
  h.setTodo rest (.inr ⟨e, he, hok⟩)
    (fun hh => by have := (h.hold hh).2; rw [ht, List.all_cons, Bool.and_eq_true] at this; exact this.2)
    (h.pdone_false ht)

theorem expandHandle_ok (s : PState) (i : Dir) (t : Trans) (hinn : i = .inn → innT t) :
    TodoOk s.present s.st (expandHandle s i t) := by
  have e0 : ∀ i, false = true → s.present i = false := nofun
  rcases expandHandle_cases s i t with ⟨he, h⟩ | ⟨he, ⟨-, -, h⟩ | h | ⟨hr, h⟩ | ⟨ho, hc, h⟩⟩ <;> rw [h]
  · exact .inr ⟨_, e0, And.intro (fun _ => by simp) ⟨fun _ => by simp [he], trivial⟩⟩
  · exact .inr ⟨_, e0, And.intro nofun trivial⟩
  · exact .inr ⟨_, e0, trivial⟩
  · refine .inr ⟨_, e0, And.intro (fun e => absurd e he) ⟨?_, trivial⟩⟩
    rintro rfl
    have := hinn rfl
    exact ⟨fun e => hr ⟨rfl, this (.inl e)⟩, fun e => hr ⟨rfl, this (.inr e)⟩⟩
  · exact .inl ⟨i, t, rfl, hc, by rw [ho]; nofun⟩

theorem PInv.echo {p : Bool} {s : PState} (h : PInv p s) {i : Dir} {t t0 : Trans} {rest : List Instr}
    (ht : s.todo = .sendT i t :: rest) (hpc : (s.f i).pc = .wait t0) :
    PInv p (({ s with todo := .logT i t.frm t.to :: rest }.setSt i t.to).setF i
      { s.f i with pc := if t.to = St.disabled then FPc.done else FPc.run t.to }) := by
  obtain ⟨e, he, ha, hb, hc⟩ := h.okT_head ht
  have hx : (s.f i).pc ≠ .absent := by rw [hpc]; nofun
  have hie := (h.ok i).inEst_false_of_pc (by rw [hpc]; nofun)
  have hy : FOk { s.f i with pc := if t.to = St.disabled then FPc.done else FPc.run t.to } (s.present i) t.to :=
    ⟨fun hp => absurd (((h.ok i).empty hp).1) hx, fun _ => by split <;> nofun,
      fun hi => absurd (hie.symm.trans hi) nofun, fun r hr => by split at hr <;> cases hr; rfl⟩
  have hm : t.to = .established → s.st i.other ≠ .established := fun hto =>
    ((h.ok i.other).empty (he _ (ha hto))).2 ▸ nofun
  have hh : ∀ {q : Prop}, s.holdDown = true → q := fun e => absurd ((h.holdDown_false_of_head ht rfl).symm.trans e) nofun
  have hd : ∀ {q : Prop}, s.pdone = true → q := fun e => absurd ((h.pdone_false ht).symm.trans e) nofun
  cases i
  · exact ⟨h.pas, h.pas_out, fun | .out => hy | .inn => h.ok .inn, h.inn, .inr ⟨e, he, hc⟩,
      fun hm' => hm hm'.1 hm'.2, h.hist_ok, hh, h.timer, hd⟩
  · exact ⟨h.pas, h.pas_out, fun | .out => h.ok .out | .inn => hy, by
        show innPc (if _ then _ else _)
        split
        · trivial
        · exact hb rfl,
      .inr ⟨e, he, hc⟩, fun hm' => hm hm'.2 hm'.1, h.hist_ok, hh, h.timer, hd⟩

theorem FOk.congr {x y : F} {p : Bool} {st : St} (h : FOk x p st) (hpc : y.pc = x.pc) (hi : y.inEst = x.inEst) :
    FOk y p st :=
  ⟨fun e => hpc ▸ h.empty e, fun e => hpc ▸ h.pres e, fun e => hpc ▸ h.inEst_run (hi ▸ e),
    fun r e => h.run_st r (hpc ▸ e)⟩

theorem pinv_instr {p : Bool} {s s' : PState} {l : Label} {ins : Instr} {rest : List Instr} (h : PInv p s)
    (ht : s.todo = ins :: rest) (hi : InstrStep s rest ins l s') : PInv p s' := by
  have hd := h.pdone_false ht
  cases hi with
  | logT | logErr =>
    obtain ⟨e, he, hok⟩ := h.okT_head ht
    exact h.pop ht he hok
  | handle i t =>
    obtain ⟨-, -, rfl, hinn⟩ := h.okT_head ht
    rw [List.append_nil]
    exact h.setTodo _ (expandHandle_ok s i t hinn) (fun hh => nomatch (h.holdDown_false_of_head ht rfl).symm.trans hh) hd
  | echo i t t0 hpc => exact h.echo ht hpc
  | sendSkip i t =>
    obtain ⟨e, he, -, -, hok⟩ := h.okT_head ht
    exact h.pop ht he hok
  | dlSkip i hp =>
    obtain ⟨e, he, hok⟩ := h.okT_head ht
    refine h.pop ht (fun j hj => ?_) hok
    rcases Bool.or_eq_true _ _ ▸ hj with hj | hj
    · exact of_decide_eq_true hj ▸ hp
    · exact he j hj
  | dlLog i hp =>
    obtain ⟨e, he, hok⟩ := h.okT_head ht
    exact h.setTodo _ (.inr ⟨e, he, hok⟩) (fun hh => nomatch hp.symm.trans ((h.hold hh).1 i)) hd
  | close i => exact h.setF i ((h.ok i).congr rfl rfl) (fun hi => h.innPc_of hi rfl) rfl
  | join i hpc =>
    obtain ⟨e, he, hok⟩ := h.okT_head ht
    refine h.setSlot i false rest ⟨fun _ => ⟨rfl, rfl⟩, nofun, nofun, nofun⟩ (fun _ => trivial)
      ((h.ok i).inEst_false_of_pc (by rw [hpc]; nofun)).symm (fun _ _ => rfl) (fun j hj => ?_) hok
      (h.holdDown_false_of_head ht rfl) hd
    split
    · rfl
    · rename_i hne
      rcases Bool.or_eq_true _ _ ▸ hj with hj | hj
      · exact absurd (of_decide_eq_true hj) hne
      · exact he j hj
  | enableSkip i w =>
    obtain ⟨e, he, -, hok⟩ := h.okT_head ht
    exact h.pop ht (fun j hj => he j (Bool.and_eq_true _ _ ▸ hj).2) hok
  | create i w hpas hp =>
    obtain ⟨e, he, hw, hok⟩ := h.okT_head ht
    have hx := ((h.ok i).empty hp).1
    refine h.setSlot i true rest ⟨nofun, fun _ => nofun, nofun, nofun⟩ ?_
      ((h.ok i).inEst_false_of_pc (by rw [hx]; nofun)).symm (fun hi hp => absurd ⟨hi, hp⟩ hpas) (fun j hj => ?_) hok
      (h.holdDown_false_of_head ht rfl) hd
    · rintro rfl
      cases hw rfl
      exact nofun
    · have hj := Bool.and_eq_true _ _ ▸ hj
      rw [if_neg (by simpa using hj.1)]
      exact he j hj.2
  | collSkip i t =>
    obtain ⟨rfl, -⟩ := h.coll_head ht
    exact h.setTodo [] (.inr ⟨fun _ => false, fun _ => nofun, trivial⟩) (fun _ => rfl) hd
  | @kill i t l o' hl _ hm =>
    -- `pInstr` applies no `applyCb` here: the other FSM is not Established, so it is outside its session before and after
    obtain ⟨rfl, hto, hst⟩ := h.coll_head ht
    have hx : (s.f i.other).pc ≠ .absent := fun e => by rw [e] at hl; cases hl
    obtain ⟨hs, -⟩ := fOnClose_step _ hm
    have hy := (h.ok i.other).step hs hx
    exact (h.setTodo [.disableLog i.other, .sendT i t] (.inr ⟨fun _ => false, fun _ => nofun,
      And.intro (fun e => by rw [hto] at e; cases e) ⟨fun _ => by rw [hto]; exact ⟨nofun, nofun⟩, trivial⟩⟩)
      (fun hh => nomatch (h.holdDown_false_of_head ht rfl).symm.trans hh) hd).setF i.other hy
      (fun hi => hs.inn (h.innPc_of hi rfl)) ((hy.inEst_false hst).trans ((h.ok i.other).inEst_false hst).symm)
  | collRecv i t ot hpc =>
    obtain ⟨rfl, hto, hst⟩ := h.coll_head ht
    have hx : (s.f i.other).pc ≠ .absent := by rw [hpc]; nofun
    have hot : i.other = .inn → innT ot := fun hi => h.innPc_of hi hpc
    refine (h.setTodo _ (.inr ⟨fun _ => false, fun _ => nofun, ?_⟩)
      (fun hh => nomatch (h.holdDown_false_of_head ht rfl).symm.trans hh) hd).setF i.other
      ((h.ok i.other).set_pc hx (by rw [hpc]; nofun) nofun nofun) hot rfl
    rw [List.append_nil]
    split
    · exact And.intro rfl hot
    · exact And.intro (fun e => by rw [hto] at e; cases e) ⟨fun _ => by rw [hto]; exact ⟨nofun, nofun⟩, rfl, hot⟩
  | damp =>
    obtain ⟨e, he, ha, rfl⟩ := h.okT_head ht
    exact ⟨h.pas, h.pas_out, h.ok, h.inn, .inr ⟨e, he, trivial⟩, h.mutex, h.hist_ok,
      fun _ => ⟨fun i => he i (ha i), rfl⟩, fun _ => rfl, fun e => absurd (hd.symm.trans e) nofun⟩
  | finish =>
    obtain ⟨e, he, ha, rfl⟩ := h.okT_head ht
    exact ⟨h.pas, h.pas_out, h.ok, h.inn, .inr ⟨e, he, trivial⟩, h.mutex, h.hist_ok,
      fun _ => ⟨fun i => he i (ha i), rfl⟩, nofun, fun _ => ⟨rfl, fun i => he i (ha i)⟩⟩

theorem pinv_step {p : Bool} {s s' : PState} {l : Label} (h : PInv p s) (hs : PStep s l s') : PInv p s' := by
  cases hs with
  | main _ hd hm => exact pinv_main h hd hm
  | instr ht hi => exact pinv_instr h ht hi
  | fclose i _ hl hm =>
    exact h.fstep i (fOnClose_step _ hm).1 fun e => by rw [e] at hl; cases hl
  | frun i st hpc hm =>
    exact h.fstep i (runOutcomes_step hpc _ hm).1 (by rw [hpc]; nofun)
  | apiStop => exact ⟨h.pas, h.pas_out, h.ok, h.inn, h.todo_ok, h.mutex, h.hist_ok, h.hold, h.timer, h.done⟩
  | rsend i m => exact h.setF i ((h.ok i).congr rfl rfl) (fun hi => h.innPc_of hi rfl) rfl
  | lost => exact h

theorem pinv_reachable {d p : Bool} {s : PState} (h : PReach d p s) : PInv p s := by
  induction h with
  | init => exact pinv_init d p
  | step _ hm ih => exact pinv_step ih (.of_mem hm)

def follow : PState → List Nat → Option PState
  | s, [] => some s
  | s, k :: ks =>
    match (next s)[k]? with
    | some (_, s') => follow s' ks
    | none => none

theorem follow_reach {d p : Bool} : ∀ (ks : List Nat) (s s' : PState), PReach d p s → follow s ks = some s' →
    PReach d p s' := by
  intro ks
  induction ks with
  | nil =>
    intro s s' h hf
    simp only [follow, Option.some.injEq] at hf
    exact hf ▸ h
  | cons k ks ih =>
    intro s s' h hf
    simp only [follow] at hf
    split at hf
    · rename_i l s1 hk
      exact ih s1 s' (PReach.step (l := l) h (List.mem_of_getElem? hk)) hf
    · cases hf

theorem exists_of_follow {d p : Bool} (P : PState → Bool) (ks : List Nat)
    (h : (follow (pInit d p) ks).any P = true) : ∃ s, PReach d p s ∧ P s = true := by
  cases hf : follow (pInit d p) ks with
  | none => simp [hf] at h
  | some s' =>
    rw [hf] at h
    exact ⟨s', follow_reach ks _ _ .init hf, by simpa using h⟩

end CoreBGP.Lemmas
