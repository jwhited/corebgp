import CoreBGP.Model.Packet
import CoreBGP.Spec.Wire
import CoreBGP.Lemmas.Bytes
/-! The codecs of `Model.Packet` against the grammar of `Spec.Wire`. Each decoder is shown equal to what the
reference parser reads, or to an error the specification lists (`decodeAddPathLoop_eq`, `decodeCaps_eq`,
`decodeOpen_cases`, `validateOpen_spec`); round trips, strictness and "no panic" are read off those. -/
namespace CoreBGP.Lemmas
open CoreBGP CoreBGP.Model

theorem prependHeader_frame_lt (m : Bytes) (t : UInt8) (h : m.length + 19 < 65536) :
    prependHeader m t = Spec.frame t m := by
  unfold prependHeader Spec.frame Spec.marker
  rw [Gen.headerLength, be16Bytes_eq, len16_toNat _ h, Nat.add_comm]

theorem encodeNotifBody_eq (n : Notif) : encodeNotifBody n = Spec.notifBody n := by
  cases n with
  | mk c s d => cases d <;> simp [encodeNotifBody, Spec.notifBody]

theorem notif_wire (n : Notif) (h : n.data.length ≤ 4075) :
    encodeNotif n = Spec.frame 3 ([n.code, n.sub] ++ n.data) := by
  unfold encodeNotif
  rw [encodeNotifBody_eq, prependHeader_frame_lt _ _ (by simp [Spec.notifBody]; omega)]
  rfl

theorem decodeAddPath4_some (a b c d : UInt8) (h : d = 1 ∨ d = 2 ∨ d = 3) :
    decodeAddPath4 a b c d = some ⟨UInt16.ofNat (Spec.n16 a b), c, decide (d = 2 ∨ d = 3), decide (d = 1 ∨ d = 3)⟩ := by
  rcases h with h | h | h <;> subst h <;> simp [decodeAddPath4, be16, Spec.n16]

theorem decodeAddPath4_none (a b c d : UInt8) (h : ¬ (d = 1 ∨ d = 2 ∨ d = 3)) :
    decodeAddPath4 a b c d = none := by
  simp only [not_or] at h
  simp [decodeAddPath4, h]

theorem decodeAddPathLoop_eq (b : Bytes) : ∀ acc, decodeAddPathLoop b acc =
    match Spec.parseAddPath b with
    | some ts => .ok (acc ++ ts)
    | none => openErr0 := by
  fun_induction Spec.parseAddPath b with
  | case1 => intro acc; simp [decodeAddPathLoop]
  | case2 a b c d rest hd ih =>
    intro acc
    rw [decodeAddPathLoop, decodeAddPath4_some a b c d hd]
    dsimp only
    rw [ih]
    cases Spec.parseAddPath rest <;> simp
  | case3 a b c d rest hd => intro acc; rw [decodeAddPathLoop, decodeAddPath4_none a b c d hd]
  | case4 t h1 h2 => intro acc; rw [decodeAddPathLoop] <;> assumption

theorem parseAddPath_len (b : Bytes) : ∀ ts, Spec.parseAddPath b = some ts → b.length = 4 * ts.length := by
  fun_induction Spec.parseAddPath b with
  | case1 => intro ts h; cases h; rfl
  | case2 a b c d rest hd ih =>
    intro ts h
    obtain ⟨ts', hr, rfl⟩ := Option.map_eq_some_iff.1 h
    simp only [List.length_cons, ih ts' hr]; omega
  | case3 => intro ts h; cases h
  | case4 => intro ts h; cases h

theorem parseAddPath_encode (ts : List AddPathTuple) (hv : ∀ t ∈ ts, t.tx = true ∨ t.rx = true) :
    Spec.parseAddPath (ts.map encodeAddPathTuple).flatten = some ts := by
  induction ts with
  | nil => simp [Spec.parseAddPath]
  | cons t ts ih =>
    have ih := ih (fun t' ht' => hv t' (List.mem_cons_of_mem _ ht'))
    have ht := hv t List.mem_cons_self
    obtain ⟨afi, safi, tx, rx⟩ := t
    simp only [List.map_cons, List.flatten_cons, encodeAddPathTuple, be16Bytes, List.cons_append, List.nil_append]
    cases tx <;> cases rx <;> simp [Spec.parseAddPath, ih, n16_u16 _ afi.toNat_lt] at ht ⊢

theorem be32_eq_iff (a b c d : UInt8) (r : UInt32) : be32 a b c d = r ↔ Spec.n32 a b c d = r.toNat := by
  rw [← UInt32.toNat_inj, be32_toNat]

def four (cs : List Cap) : List Cap := cs.filter fun c => c.code = 65

theorem four_cons_of_eq {c : Cap} {cs : List Cap} (h : c.code = 65) : four (c :: cs) = c :: four cs := by
  simp [four, h]

theorem four_cons_of_ne {c : Cap} {cs : List Cap} (h : ¬ c.code = 65) : four (c :: cs) = four cs := by
  simp [four, h]

theorem fourOctetCaps_eq (o : OpenMsg) : Spec.fourOctetCaps o = four (openCaps o) := rfl

theorem validateCaps_spec (r : UInt32) (cs : List Cap) (found : Bool) :
    (∃ f, validateCaps r cs found = .ok f ∧ f = (found || !(four cs).isEmpty) ∧
        (∀ c ∈ four cs, Spec.capAS c = some r.toNat)) ∨
    (validateCaps r cs found = .error ⟨2, 2, []⟩ ∧ ∃ c ∈ four cs, ∃ v, Spec.capAS c = some v ∧ v ≠ r.toNat) ∨
    (validateCaps r cs found = .error ⟨2, 0, []⟩ ∧ ∃ c ∈ four cs, Spec.capAS c = none) := by
  -- the five cases are the five branches of the loop in `validate` (`packet.go:286`)
  fun_induction validateCaps r cs found with
  | case1 found => exact .inl ⟨_, rfl, by simp [four], by simp [four]⟩
  | case2 c cs found hc a b cc d hv hr =>
    rw [four_cons_of_eq hc]
    refine .inr (.inl ⟨rfl, c, List.mem_cons_self, Spec.n32 a b cc d, ?_, fun h => hr ((be32_eq_iff ..).2 h)⟩)
    unfold Spec.capAS; rw [hv]
  | case3 c cs found hc a b cc d hv hr ih =>
    have hcap : Spec.capAS c = some r.toNat := by
      unfold Spec.capAS; rw [hv, ← (be32_eq_iff a b cc d r).1 (Decidable.not_not.1 hr)]
    rw [four_cons_of_eq hc]
    rcases ih with ⟨f, h1, h2, h3⟩ | ⟨h1, c', hc', h2⟩ | ⟨h1, c', hc', h2⟩
    · refine .inl ⟨f, h1, by simp [h2], fun c' hc' => ?_⟩
      rcases List.mem_cons.1 hc' with rfl | hc'
      · exact hcap
      · exact h3 c' hc'
    · exact .inr (.inl ⟨h1, c', List.mem_cons_of_mem _ hc', h2⟩)
    · exact .inr (.inr ⟨h1, c', List.mem_cons_of_mem _ hc', h2⟩)
  | case4 c cs found hc hv =>
    rw [four_cons_of_eq hc]
    refine .inr (.inr ⟨rfl, c, List.mem_cons_self, ?_⟩)
    unfold Spec.capAS; split
    · exact absurd ‹_› (hv _ _ _ _)
    · rfl
  | case5 c cs found hc ih => rw [four_cons_of_ne hc]; exact ih

theorem asn_cond (asn : UInt16) (r : UInt32) :
    ((!decide (asn = Gen.asTrans) && decide (asn.toUInt32 ≠ r)) = true) ↔
      (asn.toNat ≠ 23456 ∧ asn.toNat ≠ r.toNat) := by
  have h1 : asn = Gen.asTrans ↔ asn.toNat = 23456 := by
    rw [← UInt16.toNat_inj]; rfl
  have h2 : asn.toUInt32 = r ↔ asn.toNat = r.toNat := by
    rw [← UInt32.toNat_inj, UInt16.toNat_toUInt32]
  simp only [Bool.and_eq_true, Bool.not_eq_true', decide_eq_false_iff_not, decide_eq_true_eq, ne_eq, h1, h2]

theorem hold_cond (h : UInt16) :
    ((decide (h < 3) && decide (h ≠ 0)) = true) ↔ (h.toNat = 1 ∨ h.toNat = 2) := by
  simp only [Bool.and_eq_true, decide_eq_true_eq, ne_eq, UInt16.lt_iff_toNat_lt, ← UInt16.toNat_inj]
  show h.toNat < 3 ∧ ¬ h.toNat = 0 ↔ _
  omega

theorem mcast_cond (id : UInt32) : isMulticast4 id = true ↔ id.toNat / 16777216 / 16 = 14 := by
  simp only [isMulticast4, decide_eq_true_eq, Nat.div_div_eq_div_mul]

theorem id_cond (las ras lid id : UInt32) :
    ((decide (las = ras) && decide (lid = id)) = true) ↔ (las = ras ∧ id = lid) := by
  simp only [Bool.and_eq_true, decide_eq_true_eq]
  exact ⟨fun h => ⟨h.1, h.2.symm⟩, fun h => ⟨h.1, h.2.symm⟩⟩

theorem faultApplies_of_mem (n : Notif) (fs : List (Nat × Nat × Option Bytes)) (c s : Nat) (d : Option Bytes)
    (hm : (c, s, d) ∈ fs) (hc : n.code.toNat = c) (hs : n.sub.toNat = s)
    (hd : ∀ d', d = some d' → n.data = d') : Spec.faultApplies n fs = true := by
  unfold Spec.faultApplies
  rw [List.any_eq_true]
  refine ⟨_, hm, ?_⟩
  cases d with
  | none => simp [hc, hs]
  | some d' => simp [hc, hs, hd d' rfl]

theorem mem_openSemFaults {o : OpenMsg} {cfg : Spec.PeerCfg} {f : Nat × Nat × Option Bytes} :
    f ∈ Spec.openSemFaults o cfg ↔
      (o.version ≠ 4 ∧ f = (2, 1, some [0, 4])) ∨
      (((o.asn.toNat ≠ 23456 ∧ o.asn.toNat ≠ cfg.remoteAS.toNat) ∨
          (∃ c ∈ Spec.fourOctetCaps o, ∃ v, Spec.capAS c = some v ∧ v ≠ cfg.remoteAS.toNat) ∨
          (o.asn.toNat = 23456 ∧ Spec.fourOctetCaps o = [])) ∧ f = (2, 2, none)) ∨
      ((o.holdTime.toNat = 1 ∨ o.holdTime.toNat = 2) ∧ f = (2, 6, none)) ∨
      ((o.bgpID.toNat / 16777216 / 16 = 14 ∨ (cfg.localAS = cfg.remoteAS ∧ o.bgpID = cfg.localID)) ∧
          f = (2, 3, none)) ∨
      ((∃ c ∈ Spec.fourOctetCaps o, Spec.capAS c = none) ∧ f = (2, 0, none)) ∨
      (Spec.fourOctetCaps o = [] ∧ f = (2, 7, some ([65, 4] ++ Spec.u32 cfg.remoteAS.toNat))) := by
  simp only [Spec.openSemFaults, List.mem_append, List.mem_ite_nil_right, List.mem_singleton, or_assoc]

theorem validateOpen_spec (o : OpenMsg) (lid las ras : UInt32) :
    match validateOpen o lid las ras with
    | none => Spec.openSemFaults o ⟨lid, las, ras⟩ = []
    | some n => ∃ (c s : UInt8) (d : Option Bytes),
        (c.toNat, s.toNat, d) ∈ Spec.openSemFaults o ⟨lid, las, ras⟩ ∧ n = ⟨c, s, d.getD []⟩ := by
  have mem := @mem_openSemFaults o ⟨lid, las, ras⟩
  unfold validateOpen
  by_cases hv : o.version = 4
  -- at each exit `.inr`ⁿ `(.inl ⟨h, rfl⟩)` selects row n+1 of `mem_openSemFaults`
  case neg => rw [if_pos hv]; exact ⟨2, 1, _, mem.2 (.inl ⟨hv, rfl⟩), rfl⟩
  rw [if_neg (fun h => h hv)]
  by_cases h2 : (!decide (o.asn = Gen.asTrans) && decide (o.asn.toUInt32 ≠ ras)) = true
  case pos => rw [if_pos h2]; exact ⟨2, 2, none, mem.2 (.inr (.inl ⟨.inl ((asn_cond ..).1 h2), rfl⟩)), rfl⟩
  rw [if_neg h2]
  by_cases h3 : (decide (o.holdTime < 3) && decide (o.holdTime ≠ 0)) = true
  case pos => rw [if_pos h3]; exact ⟨2, 6, none, mem.2 (.inr (.inr (.inl ⟨(hold_cond _).1 h3, rfl⟩))), rfl⟩
  rw [if_neg h3]
  by_cases h4 : isMulticast4 o.bgpID = true
  case pos =>
    rw [if_pos h4]; exact ⟨2, 3, none, mem.2 (.inr (.inr (.inr (.inl ⟨.inl ((mcast_cond _).1 h4), rfl⟩)))), rfl⟩
  rw [if_neg h4]
  by_cases h5 : (decide (las = ras) && decide (lid = o.bgpID)) = true
  case pos =>
    rw [if_pos h5]; exact ⟨2, 3, none, mem.2 (.inr (.inr (.inr (.inl ⟨.inr ((id_cond ..).1 h5), rfl⟩)))), rfl⟩
  rw [if_neg h5]
  rcases validateCaps_spec ras (openCaps o) false with ⟨f, h1, hf, hall⟩ | ⟨h1, hbad⟩ | ⟨h1, hbad⟩
  · rw [h1]
    dsimp only
    by_cases hnil : Spec.fourOctetCaps o = []
    · have hf' : f = false := by rw [hf, ← fourOctetCaps_eq, hnil]; rfl
      subst hf'
      by_cases ha : o.asn = Gen.asTrans
      · rw [if_pos (by simp [ha])]
        exact ⟨2, 2, none, mem.2 (.inr (.inl ⟨.inr (.inr ⟨by rw [ha]; rfl, hnil⟩), rfl⟩)), rfl⟩
      · rw [if_neg (by simp [ha]), if_pos (by decide)]
        exact ⟨2, 7, _, mem.2 (.inr (.inr (.inr (.inr (.inr ⟨hnil, rfl⟩))))), rfl⟩
    · have hf' : f = true := by
        rw [hf, ← fourOctetCaps_eq]
        cases h : Spec.fourOctetCaps o with
        | nil => exact absurd h hnil
        | cons _ _ => rfl
      subst hf'
      rw [if_neg (by simp), if_neg (by simp)]
      refine List.eq_nil_iff_forall_not_mem.2 fun x hx => ?_
      rcases mem.1 hx with ⟨h, _⟩ | ⟨h | ⟨c, hc, v, hcv, hne⟩ | ⟨_, h⟩, _⟩ | ⟨h, _⟩ | ⟨h | h, _⟩ |
        ⟨⟨c, hc, hcv⟩, _⟩ | ⟨h, _⟩
      · exact h hv
      · exact h2 ((asn_cond ..).2 h)
      · have := hall c hc; rw [hcv] at this; exact hne (Option.some.inj this)
      · exact hnil h
      · exact h3 ((hold_cond _).2 h)
      · exact h4 ((mcast_cond _).2 h)
      · exact h5 ((id_cond ..).2 h)
      · have := hall c hc; rw [hcv] at this; cases this
      · exact hnil h
  · rw [h1]; exact ⟨2, 2, none, mem.2 (.inr (.inl ⟨.inr (.inl hbad), rfl⟩)), rfl⟩
  · rw [h1]; exact ⟨2, 0, none, mem.2 (.inr (.inr (.inr (.inr (.inl ⟨hbad, rfl⟩))))), rfl⟩

/-- 6: the longest data in the fault table is the four-octet-AS capability, `[65, 4]` and four octets -/
theorem validateOpen_data_small (o : OpenMsg) (lid las ras : UInt32) (n : Notif)
    (h : validateOpen o lid las ras = some n) : n.data.length ≤ 6 := by
  have := validateOpen_spec o lid las ras
  rw [h] at this
  obtain ⟨c, s, d, hm, rfl⟩ := this
  rcases mem_openSemFaults.1 hm with ⟨_, h⟩ | ⟨_, h⟩ | ⟨_, h⟩ | ⟨_, h⟩ | ⟨_, h⟩ | ⟨_, h⟩ <;>
    rw [(Prod.mk.inj (Prod.mk.inj h).2).2] <;> simp [Spec.u32]

theorem tlvs_nil (f : Nat) : Spec.tlvs f [] = some [] := by
  cases f <;> rfl

theorem tlvs_single (f : Nat) (x : UInt8) : Spec.tlvs f [x] = none := by
  cases f <;> rfl

theorem tlvs_cons (f : Nat) (t l : UInt8) (rest : Bytes) :
    Spec.tlvs (f + 1) (t :: l :: rest) =
      if rest.length < l.toNat then none
      else (Spec.tlvs f (rest.drop l.toNat)).map ((t, rest.take l.toNat) :: ·) := rfl

/-- induction along the records of a TLV string: the recursion of `Spec.tlvs`, `Spec.walkParams` and the two
decoder loops, without their fuel -/
theorem tlvRec {motive : Bytes → Prop} (nil : motive []) (single : ∀ x, motive [x])
    (short : ∀ t l tail, tail.length < l.toNat → motive (t :: l :: tail))
    (cons : ∀ t l tail, l.toNat ≤ tail.length → motive (tail.drop l.toNat) → motive (t :: l :: tail))
    (b : Bytes) : motive b := by
  induction h : b.length using Nat.strongRecOn generalizing b with
  | _ n ih =>
    match b with
    | [] => exact nil
    | [x] => exact single x
    | t :: l :: tail =>
      by_cases hs : tail.length < l.toNat
      · exact short t l tail hs
      · exact cons t l tail (by omega) (ih _ (by subst h; simp; omega) _ rfl)

theorem tlvs_fuel (b : Bytes) : ∀ f, b.length ≤ f → Spec.tlvs f b = Spec.parseTLVs b := by
  induction b using tlvRec with
  | nil => intro f _; rw [tlvs_nil]; rfl
  | single x => intro f _; rw [tlvs_single]; rfl
  | short t l tail hs =>
    intro f hf
    obtain ⟨f, rfl⟩ := Nat.exists_eq_add_one_of_ne_zero (Nat.ne_zero_of_lt hf)
    rw [tlvs_cons, if_pos hs, Spec.parseTLVs, List.length_cons, tlvs_cons, if_pos hs]
  | cons t l tail hl ih =>
    intro f hf
    obtain ⟨f, rfl⟩ := Nat.exists_eq_add_one_of_ne_zero (Nat.ne_zero_of_lt hf)
    simp only [List.length_cons] at hf
    rw [tlvs_cons, Spec.parseTLVs, List.length_cons, tlvs_cons, ih f (by simp; omega), ih _ (by simp; omega)]

theorem parseTLVs_nil : Spec.parseTLVs [] = some [] := rfl
theorem parseTLVs_single (x : UInt8) : Spec.parseTLVs [x] = none := rfl
theorem parseTLVs_cons (t l : UInt8) (rest : Bytes) :
    Spec.parseTLVs (t :: l :: rest) =
      if rest.length < l.toNat then none
      else (Spec.parseTLVs (rest.drop l.toNat)).map ((t, rest.take l.toNat) :: ·) := by
  show Spec.tlvs (rest.length + 1 + 1) _ = _
  rw [tlvs_cons]
  split
  · rfl
  · rw [tlvs_fuel _ _ (by simp; omega)]

def tlvWire (x : UInt8 × Bytes) : Bytes := [x.1, UInt8.ofNat x.2.length] ++ x.2

theorem parseTLVs_wire (xs : List (UInt8 × Bytes)) (h : ∀ x ∈ xs, x.2.length ≤ 255) :
    Spec.parseTLVs (xs.map tlvWire).flatten = some xs := by
  induction xs with
  | nil => rfl
  | cons x xs ih =>
    have hx := h x List.mem_cons_self
    have ih := ih (fun y hy => h y (List.mem_cons_of_mem _ hy))
    obtain ⟨t, v⟩ := x
    simp only at hx
    have hl : (UInt8.ofNat v.length).toNat = v.length := UInt8.toNat_ofNat_of_lt' (Nat.lt_succ_of_le hx)
    simp only [List.map_cons, List.flatten_cons, tlvWire, List.cons_append, List.nil_append]
    rw [parseTLVs_cons, hl, if_neg (by simp)]
    simp [ih]

theorem parseTLVs_sound (b : Bytes) : ∀ xs, Spec.parseTLVs b = some xs →
    (∀ x ∈ xs, x.2.length ≤ 255) ∧ (xs.map tlvWire).flatten = b := by
  induction b using tlvRec with
  | nil => intro xs h; cases h; simp
  | single x => intro xs h; cases h
  | short t l tail hs => intro xs h; rw [parseTLVs_cons, if_pos hs] at h; cases h
  | cons t l tail hl ih =>
    intro xs h
    rw [parseTLVs_cons, if_neg (Nat.not_lt.2 hl)] at h
    obtain ⟨ys, hr, rfl⟩ := Option.map_eq_some_iff.1 h
    have ⟨h1, h2⟩ := ih ys hr
    have hl' := l.toNat_lt
    have htl : (tail.take l.toNat).length = l.toNat := by simp; omega
    refine ⟨fun x hx => ?_, ?_⟩
    · rcases List.mem_cons.1 hx with rfl | hx
      · simp only [htl]; omega
      · exact h1 x hx
    · simp only [List.map_cons, List.flatten_cons, h2, tlvWire, htl, UInt8.ofNat_toNat,
        List.cons_append, List.nil_append, List.take_append_drop]

theorem parseTLVs_eq_nil (b : Bytes) (h : Spec.parseTLVs b = some []) : b = [] := by
  simpa using (parseTLVs_sound b [] h).2.symm

theorem walkParams_nil (f : Nat) : Spec.walkParams f [] = [] := by cases f <;> rfl
theorem walkParams_single (f : Nat) (x : UInt8) : Spec.walkParams f [x] = [(2, 0)] := by cases f <;> rfl
theorem walkParams_cons (f : Nat) (t l : UInt8) (rest : Bytes) :
    Spec.walkParams (f + 1) (t :: l :: rest) =
      if rest.length < l.toNat then [(2, 0)]
      else
        (if t ≠ 2 then [(2, 4)] else if (Spec.parseCaps (rest.take l.toNat)).isNone then [(2, 0)] else []) ++
        Spec.walkParams f (rest.drop l.toNat) := rfl

def walk (b : Bytes) : List (Nat × Nat) := Spec.walkParams b.length b

theorem walkParams_fuel (b : Bytes) : ∀ f, b.length ≤ f → Spec.walkParams f b = walk b := by
  induction b using tlvRec with
  | nil => intro f _; rw [walkParams_nil]; rfl
  | single x => intro f _; rw [walkParams_single]; rfl
  | short t l tail hs =>
    intro f hf
    obtain ⟨f, rfl⟩ := Nat.exists_eq_add_one_of_ne_zero (Nat.ne_zero_of_lt hf)
    rw [walkParams_cons, if_pos hs, walk, List.length_cons, walkParams_cons, if_pos hs]
  | cons t l tail hl ih =>
    intro f hf
    obtain ⟨f, rfl⟩ := Nat.exists_eq_add_one_of_ne_zero (Nat.ne_zero_of_lt hf)
    simp only [List.length_cons] at hf
    rw [walkParams_cons, walk, List.length_cons, walkParams_cons, ih f (by simp; omega), ih _ (by simp; omega)]

theorem walk_single (x : UInt8) : walk [x] = [(2, 0)] := rfl
theorem walk_cons (t l : UInt8) (rest : Bytes) :
    walk (t :: l :: rest) =
      if rest.length < l.toNat then [(2, 0)]
      else
        (if t ≠ 2 then [(2, 4)] else if (Spec.parseCaps (rest.take l.toNat)).isNone then [(2, 0)] else []) ++
        walk (rest.drop l.toNat) := by
  show Spec.walkParams (rest.length + 1 + 1) _ = _
  rw [walkParams_cons]
  split
  · rfl
  · rw [walkParams_fuel _ _ (by simp; omega)]

def capPair (c : Cap) : UInt8 × Bytes := (c.code, c.value)
def pairCap (x : UInt8 × Bytes) : Cap := ⟨x.1, x.2⟩

theorem pairCap_capPair (c : Cap) : pairCap (capPair c) = c := rfl
theorem capPair_pairCap (x : UInt8 × Bytes) : capPair (pairCap x) = x := rfl

theorem parseCaps_eq (b : Bytes) :
    Spec.parseCaps b = match Spec.parseTLVs b with
      | some (x :: xs) => some ((x :: xs).map pairCap)
      | _ => none := by
  unfold Spec.parseCaps
  rcases Spec.parseTLVs b with _ | _ | _ <;> rfl

theorem capsWire_eq (cs : List Cap) : Spec.capsWire cs = ((cs.map capPair).map tlvWire).flatten := by
  unfold Spec.capsWire; rw [List.map_map]; rfl

theorem paramsWire_eq (ps : List (List Cap)) :
    Spec.paramsWire ps = ((ps.map fun p => ((2 : UInt8), Spec.capsWire p)).map tlvWire).flatten := by
  unfold Spec.paramsWire; rw [List.map_map]; rfl

theorem parseCaps_wire (cs : List Cap) (hne : cs ≠ []) (h : ∀ c ∈ cs, c.value.length ≤ 255) :
    Spec.parseCaps (Spec.capsWire cs) = some cs := by
  rw [parseCaps_eq, capsWire_eq, parseTLVs_wire]
  · cases cs with
    | nil => exact absurd rfl hne
    | cons c cs =>
      simp only [List.map_cons, List.map_map, pairCap_capPair]
      have : (pairCap ∘ capPair) = id := funext pairCap_capPair
      rw [this, List.map_id]
  · intro x hx
    obtain ⟨c, hc, rfl⟩ := List.mem_map.1 hx
    exact h c hc

theorem parseCaps_sound (b : Bytes) (cs : List Cap) (h : Spec.parseCaps b = some cs) :
    cs ≠ [] ∧ (∀ c ∈ cs, c.value.length ≤ 255) ∧ Spec.capsWire cs = b := by
  rw [parseCaps_eq] at h
  split at h
  · rename_i x xs hp
    cases h
    have ⟨h1, h2⟩ := parseTLVs_sound b _ hp
    refine ⟨by simp, ?_, ?_⟩
    · intro c hc
      obtain ⟨y, hy, rfl⟩ := List.mem_map.1 hc
      exact h1 y hy
    · rw [capsWire_eq, List.map_map (f := pairCap)]
      have : (capPair ∘ pairCap) = id := funext capPair_pairCap
      rw [this, List.map_id]; exact h2
  · cases h

theorem parseParams_wire (ps : List (List Cap))
    (h : ∀ p ∈ ps, p ≠ [] ∧ (∀ c ∈ p, c.value.length ≤ 255)) :
    Spec.parseParams (ps.map fun p => ((2 : UInt8), Spec.capsWire p)) = some ps := by
  induction ps with
  | nil => rfl
  | cons p ps ih =>
    have hp := h p List.mem_cons_self
    have ih := ih (fun q hq => h q (List.mem_cons_of_mem _ hq))
    simp only [List.map_cons, Spec.parseParams, ne_eq, not_true, if_false, parseCaps_wire p hp.1 hp.2, ih]

theorem parseParams_sound (tl : List (UInt8 × Bytes)) (ps : List (List Cap))
    (h : Spec.parseParams tl = some ps) :
    tl = (ps.map fun p => ((2 : UInt8), Spec.capsWire p)) ∧
      ∀ p ∈ ps, p ≠ [] ∧ (∀ c ∈ p, c.value.length ≤ 255) := by
  induction tl generalizing ps with
  | nil => cases h; simp
  | cons x tl ih =>
    obtain ⟨t, v⟩ := x
    simp only [Spec.parseParams] at h
    split at h
    · cases h
    · rename_i ht
      have ht : t = 2 := by simpa using ht
      subst ht
      split at h
      · rename_i cs rest hc hr
        cases h
        have ⟨h1, h2, h3⟩ := parseCaps_sound v cs hc
        have ⟨h4, h5⟩ := ih rest hr
        constructor
        · simp [h3, ← h4]
        · intro p hp
          rcases List.mem_cons.1 hp with rfl | hp
          · exact ⟨h1, h2⟩
          · exact h5 p hp
      · cases h

theorem parseOpen_cons (v a1 a2 h1 h2 i1 i2 i3 i4 opl : UInt8) (rest : Bytes) :
    Spec.parseOpen (v :: a1 :: a2 :: h1 :: h2 :: i1 :: i2 :: i3 :: i4 :: opl :: rest) =
      if opl.toNat ≠ rest.length then none else
      match Spec.parseTLVs rest with
      | some (p :: ps) =>
        (Spec.parseParams (p :: ps)).map fun params =>
          ⟨v, UInt16.ofNat (Spec.n16 a1 a2), UInt16.ofNat (Spec.n16 h1 h2), UInt32.ofNat (Spec.n32 i1 i2 i3 i4), params⟩
      | _ => none := rfl

/-- the optional-parameter block read in one pass, as the decoder reads it (`Spec.parseOpen` reads it twice:
the records, then each as a Capabilities parameter) -/
def parseParamBlock (b : Bytes) : Option (List (List Cap)) := (Spec.parseTLVs b).bind Spec.parseParams

theorem parseParamBlock_cons (t l : UInt8) (rest : Bytes) :
    parseParamBlock (t :: l :: rest) =
      if rest.length < l.toNat ∨ t ≠ 2 then none
      else match Spec.parseCaps (rest.take l.toNat), parseParamBlock (rest.drop l.toNat) with
        | some cs, some ps => some (cs :: ps)
        | _, _ => none := by
  unfold parseParamBlock
  rw [parseTLVs_cons]
  by_cases hs : rest.length < l.toNat
  · rw [if_pos hs, if_pos (.inl hs)]; rfl
  · rw [if_neg hs]
    by_cases ht : t = 2
    · subst ht
      rw [if_neg (by simp [hs])]
      cases Spec.parseTLVs (rest.drop l.toNat) with
      | none => cases Spec.parseCaps (rest.take l.toNat) <;> rfl
      | some tl =>
        simp only [Option.map_some, Option.bind_some, Spec.parseParams, ne_eq, not_true, if_false]
        cases Spec.parseCaps (rest.take l.toNat) <;> cases Spec.parseParams tl <;> rfl
    · rw [if_pos (.inr ht)]
      cases Spec.parseTLVs (rest.drop l.toNat) with
      | none => rfl
      | some tl => simp [Spec.parseParams, ht]

/-- stated with `be16` / `be32`, which are `UInt16.ofNat (Spec.n16 ..)` / `UInt32.ofNat (Spec.n32 ..)` by definition:
that is what closes the cases by `rfl` here and lets `decodeOpen`'s value meet `parseOpen`'s -/
theorem parseOpen_block (v a1 a2 h1 h2 i1 i2 i3 i4 opl : UInt8) (rest : Bytes)
    (hl : opl.toNat = rest.length) (hr : rest ≠ []) :
    Spec.parseOpen (v :: a1 :: a2 :: h1 :: h2 :: i1 :: i2 :: i3 :: i4 :: opl :: rest) =
      (parseParamBlock rest).map fun ps => ⟨v, be16 a1 a2, be16 h1 h2, be32 i1 i2 i3 i4, ps⟩ := by
  rw [parseOpen_cons, if_neg (fun h => h hl)]
  unfold parseParamBlock
  cases ht : Spec.parseTLVs rest with
  | none => rfl
  | some tl =>
    cases tl with
    | nil => exact absurd (parseTLVs_eq_nil rest ht) hr
    | cons p tl' => rfl

theorem parseOpen_inv (b : Bytes) (o : OpenMsg) (h : Spec.parseOpen b = some o) :
    ∃ v a1 a2 h1 h2 i1 i2 i3 i4 opl rest tl,
      b = v :: a1 :: a2 :: h1 :: h2 :: i1 :: i2 :: i3 :: i4 :: opl :: rest ∧
      opl.toNat = rest.length ∧ Spec.parseTLVs rest = some tl ∧ tl ≠ [] ∧
      Spec.parseParams tl = some o.params ∧
      o = ⟨v, UInt16.ofNat (Spec.n16 a1 a2), UInt16.ofNat (Spec.n16 h1 h2), UInt32.ofNat (Spec.n32 i1 i2 i3 i4), o.params⟩ := by
  unfold Spec.parseOpen at h
  split at h
  · rename_i v a1 a2 h1 h2 i1 i2 i3 i4 opl rest
    split at h
    · cases h
    · rename_i hl
      split at h
      · rename_i p ps ht
        cases hp : Spec.parseParams (p :: ps) with
        | none => rw [hp] at h; cases h
        | some params =>
          rw [hp] at h
          simp only [Option.map_some, Option.some.injEq] at h
          subst h
          exact ⟨v, a1, a2, h1, h2, i1, i2, i3, i4, opl, rest, p :: ps, rfl, by simpa using hl, ht, by simp, hp, rfl⟩
      · cases h
  · cases h

theorem parseOpen_eq_some_iff (b : Bytes) (o : OpenMsg) :
    Spec.parseOpen b = some o ↔ Spec.Representable o ∧ Spec.openBody o = b := by
  constructor
  · intro h
    obtain ⟨v, a1, a2, h1, h2, i1, i2, i3, i4, opl, rest, tl, rfl, hl, ht, hne, hp, ho⟩ := parseOpen_inv b o h
    have ⟨ht1, ht2⟩ := parseTLVs_sound rest tl ht
    have ⟨hp1, hp2⟩ := parseParams_sound tl o.params hp
    have hw : Spec.paramsWire o.params = rest := by rw [paramsWire_eq, ← hp1]; exact ht2
    have hopl := opl.toNat_lt
    constructor
    · refine ⟨?_, ?_, ?_⟩
      · intro hnil; rw [hnil] at hp1; exact hne hp1
      · intro p hpm
        refine ⟨(hp2 p hpm).1, (hp2 p hpm).2, ?_⟩
        have : ((2 : UInt8), Spec.capsWire p) ∈ tl := by
          rw [hp1]; exact List.mem_map.2 ⟨p, hpm, rfl⟩
        exact ht1 _ this
      · rw [hw]; omega
    · rw [ho]
      show Spec.openBody ⟨v, be16 a1 a2, be16 h1 h2, be32 i1 i2 i3 i4, o.params⟩ = _
      simp only [Spec.openBody, hw, be16_toNat, be32_toNat, u16_n16, u32_n32, ← hl, UInt8.ofNat_toNat]
      rfl
  · rintro ⟨⟨hne, hall, hlen⟩, rfl⟩
    obtain ⟨v, asn, hold, id, params⟩ := o
    simp only at hne hall hlen
    have hopl : (UInt8.ofNat (Spec.paramsWire params).length).toNat = (Spec.paramsWire params).length :=
      UInt8.toNat_ofNat_of_lt' (Nat.lt_succ_of_le hlen)
    have ht : Spec.parseTLVs (Spec.paramsWire params) = some (params.map fun p => ((2 : UInt8), Spec.capsWire p)) := by
      rw [paramsWire_eq, parseTLVs_wire]
      intro x hx
      obtain ⟨p, hp, rfl⟩ := List.mem_map.1 hx
      exact (hall p hp).2.2
    have hp := parseParams_wire params (fun p hp => ⟨(hall p hp).1, (hall p hp).2.1⟩)
    have hr : Spec.paramsWire params ≠ [] := by
      cases params with
      | nil => exact absurd rfl hne
      | cons _ _ => simp [Spec.paramsWire, Spec.paramWire]
    show Spec.parseOpen (_ :: _ :: _ :: _ :: _ :: _ :: _ :: _ :: _ :: _ :: Spec.paramsWire params) = _
    rw [parseOpen_block _ _ _ _ _ _ _ _ _ _ _ hopl hr, parseParamBlock, ht, Option.bind_some, hp, Option.map_some]
    congr 2
    · rw [← UInt16.toNat_inj, be16_toNat, n16_u16 _ asn.toNat_lt]
    · rw [← UInt16.toNat_inj, be16_toNat, n16_u16 _ hold.toNat_lt]
    · rw [← UInt32.toNat_inj, be32_toNat, n32_u32 _ id.toNat_lt]

theorem tlv_value_slice (t l : UInt8) (tail : Bytes) (h1 : l.toNat ≤ tail.length) (h2 : tail.length + 2 ≤ 255) :
    (if l > 0 then slice? (t :: l :: tail) 2 (l + 2).toNat else some []) = some (tail.take l.toNat) := by
  by_cases h0 : l > 0
  · rw [if_pos h0, toNat_add2 l (by omega), slice?_eq (by omega) (by simp; omega)]
    simp
  · have : l = 0 := by simpa using h0
    subst this; rfl

theorem tlv_rest_slice (t l : UInt8) (tail : Bytes) (h1 : l.toNat ≤ tail.length) :
    sliceFrom? (t :: l :: tail) (2 + l.toNat) = some (tail.drop l.toNat) := by
  rw [sliceFrom?_eq (by simp; omega)]
  simp [Nat.add_comm 2]

theorem decodeCapsLoop_cons (fuel : Nat) (t l : UInt8) (tail : Bytes) (acc : List Cap)
    (h1 : l.toNat ≤ tail.length) (h2 : tail.length + 2 ≤ 255) :
    decodeCapsLoop (fuel + 1) (t :: l :: tail) acc =
      if (tail.drop l.toNat).length = 0 then .ok (acc ++ [⟨t, tail.take l.toNat⟩])
      else decodeCapsLoop fuel (tail.drop l.toNat) (acc ++ [⟨t, tail.take l.toNat⟩]) := by
  rw [decodeCapsLoop]
  simp only [tlv_value_slice t l tail h1 h2, tlv_rest_slice t l tail h1]
  rw [if_neg (by simp; omega)]

theorem decodeCapsLoop_short (fuel : Nat) (t l : UInt8) (tail : Bytes) (acc : List Cap)
    (h : tail.length < l.toNat) :
    decodeCapsLoop (fuel + 1) (t :: l :: tail) acc = nerr 2 0 [] := by
  rw [decodeCapsLoop]
  rw [if_pos (by simp; omega)]
  rfl

theorem decodeCapsLoop_single (fuel : Nat) (x : UInt8) (acc : List Cap) :
    decodeCapsLoop (fuel + 1) [x] acc = nerr 2 0 [] := rfl

theorem decodeCapsLoop_nil (fuel : Nat) (acc : List Cap) :
    decodeCapsLoop (fuel + 1) [] acc = nerr 2 0 [] := rfl

/-- 255: beyond it the 8-bit `capLen+2` can wrap -/
theorem decodeCapsLoop_spec (b : Bytes) : ∀ (fuel : Nat) (acc : List Cap),
    b.length ≤ fuel → b.length ≤ 255 → b ≠ [] →
    decodeCapsLoop (fuel + 1) b acc = match Spec.parseTLVs b with
      | some tl => .ok (acc ++ tl.map pairCap)
      | none => nerr 2 0 [] := by
  induction b using tlvRec with
  | nil => intro _ _ _ _ h; exact absurd rfl h
  | single x => intros; rfl
  | short t l tail hs => intros; rw [decodeCapsLoop_short _ _ _ _ _ hs, parseTLVs_cons, if_pos hs]
  | cons t l tail hl ih =>
    intro fuel acc hf hb _
    simp only [List.length_cons] at hf hb
    rw [decodeCapsLoop_cons _ _ _ _ _ hl (by omega), parseTLVs_cons, if_neg (Nat.not_lt.2 hl)]
    by_cases hd : tail.drop l.toNat = []
    · rw [hd]; simp [parseTLVs_nil, pairCap]
    · obtain ⟨fuel, rfl⟩ := Nat.exists_eq_add_one_of_ne_zero (Nat.ne_zero_of_lt hf)
      rw [if_neg (fun h => hd (List.eq_nil_of_length_eq_zero h)), ih _ _ (by simp; omega) (by simp; omega) hd]
      cases Spec.parseTLVs (tail.drop l.toNat) with
      | none => rfl
      | some tl => simp [pairCap]

theorem decodeCaps_eq (b : Bytes) (hb : b.length ≤ 255) :
    decodeCaps b = match Spec.parseCaps b with
      | some cs => .ok cs
      | none => nerr 2 0 [] := by
  unfold decodeCaps
  by_cases hne : b = []
  · subst hne; rfl
  · rw [decodeCapsLoop_spec b _ [] (Nat.le_refl _) hb hne, parseCaps_eq]
    cases h : Spec.parseTLVs b with
    | none => rfl
    | some tl =>
      cases tl with
      | nil => exact absurd (parseTLVs_eq_nil b h) hne
      | cons x xs => simp

theorem decodeCaps_no_panic (b : Bytes) (h : b.length ≤ 255) : decodeCaps b ≠ .panic := by
  rw [decodeCaps_eq b h]; split <;> (intro h; cases h)

theorem decodeParamsLoop_cons (fuel : Nat) (t l : UInt8) (tail : Bytes) (acc : List (List Cap))
    (h1 : l.toNat ≤ tail.length) (h2 : tail.length + 2 ≤ 255) :
    decodeParamsLoop (fuel + 1) (t :: l :: tail) acc =
      if t = 2 then
        match Spec.parseCaps (tail.take l.toNat) with
        | some cs =>
          if (tail.drop l.toNat).length = 0 then .ok (acc ++ [cs])
          else decodeParamsLoop fuel (tail.drop l.toNat) (acc ++ [cs])
        | none => nerr 2 0 []
      else nerr 2 4 [] := by
  rw [decodeParamsLoop]
  simp only [tlv_value_slice t l tail h1 h2, tlv_rest_slice t l tail h1]
  rw [if_neg (by simp; omega), decodeCaps_eq _ (by simp; omega)]
  cases Spec.parseCaps (tail.take l.toNat) <;> rfl

theorem decodeParamsLoop_short (fuel : Nat) (t l : UInt8) (tail : Bytes) (acc : List (List Cap))
    (h : tail.length < l.toNat) :
    decodeParamsLoop (fuel + 1) (t :: l :: tail) acc = nerr 2 0 [] := by
  rw [decodeParamsLoop]
  rw [if_pos (by simp; omega)]
  rfl

theorem decodeParamsLoop_single (fuel : Nat) (x : UInt8) (acc : List (List Cap)) :
    decodeParamsLoop (fuel + 1) [x] acc = nerr 2 0 [] := rfl

theorem decodeParamsLoop_nil (fuel : Nat) (acc : List (List Cap)) :
    decodeParamsLoop (fuel + 1) [] acc = nerr 2 0 [] := rfl

theorem decodeParamsLoop_spec (b : Bytes) : ∀ (fuel : Nat) (acc : List (List Cap)),
    b.length ≤ fuel → b.length ≤ 255 → b ≠ [] →
    (∃ ps, parseParamBlock b = some ps ∧ decodeParamsLoop (fuel + 1) b acc = .ok (acc ++ ps)) ∨
    (∃ sub : UInt8, decodeParamsLoop (fuel + 1) b acc = nerr 2 sub [] ∧ (2, sub.toNat) ∈ walk b ∧
        parseParamBlock b = none) := by
  induction b using tlvRec with
  | nil => intro _ _ _ _ h; exact absurd rfl h
  | single x => intros; exact .inr ⟨0, rfl, by simp [walk_single], rfl⟩
  | short t l tail hs =>
    intros
    rw [decodeParamsLoop_short _ _ _ _ _ hs, walk_cons, if_pos hs, parseParamBlock_cons, if_pos (.inl hs)]
    exact .inr ⟨0, rfl, by simp, rfl⟩
  | cons t l tail hl ih =>
    intro fuel acc hf hb _
    simp only [List.length_cons] at hf hb
    have hs := Nat.not_lt.2 hl
    rw [decodeParamsLoop_cons _ _ _ _ _ hl (by omega), walk_cons, if_neg hs, parseParamBlock_cons]
    by_cases ht : t = 2
    case neg => rw [if_neg ht, if_pos (.inr ht)]; exact .inr ⟨4, rfl, by simp [ht], rfl⟩
    subst ht
    rw [if_pos rfl, if_neg (by simp [hs])]
    cases hc : Spec.parseCaps (tail.take l.toNat) with
    | none => exact .inr ⟨0, rfl, by simp, rfl⟩
    | some cs =>
      dsimp only
      by_cases hd : tail.drop l.toNat = []
      · rw [hd]; exact .inl ⟨[cs], rfl, by simp⟩
      · obtain ⟨fuel, rfl⟩ := Nat.exists_eq_add_one_of_ne_zero (Nat.ne_zero_of_lt hf)
        rw [if_neg (fun h => hd (List.eq_nil_of_length_eq_zero h))]
        rcases ih fuel (acc ++ [cs]) (by simp; omega) (by simp; omega) hd with ⟨ps, h1, h2⟩ | ⟨sub, h1, h2, h3⟩
        · exact .inl ⟨cs :: ps, by rw [h1], by simp [h2]⟩
        · exact .inr ⟨sub, h1, List.mem_append_right _ h2, by rw [h3]⟩

theorem decodeOpen_cons (v a1 a2 h1 h2 i1 i2 i3 i4 opl : UInt8) (rest : Bytes) :
    decodeOpen (v :: a1 :: a2 :: h1 :: h2 :: i1 :: i2 :: i3 :: i4 :: opl :: rest) =
      if opl.toNat ≠ rest.length then nerr 2 0 []
      else
        match decodeParams rest with
        | .ok ps => .ok ⟨v, be16 a1 a2, be16 h1 h2, be32 i1 i2 i3 i4, ps⟩
        | .err e => .err e
        | .panic => .panic := rfl

theorem openStructFaults_cons (v a1 a2 h1 h2 i1 i2 i3 i4 opl : UInt8) (rest : Bytes) :
    Spec.openStructFaults (v :: a1 :: a2 :: h1 :: h2 :: i1 :: i2 :: i3 :: i4 :: opl :: rest) =
      if opl.toNat ≠ rest.length then [(2, 0)]
      else if rest.length = 0 then [(2, 0)]
      else walk rest := rfl

/-- `decodeOpen` characterised on every input, against `Spec.parseOpen` and `Spec.openStructFaults`;
`C15.open_decode_iff`, `open_decode_err` and `open_decode_no_panic` are its three readings -/
theorem decodeOpen_cases (b : Bytes) :
    (∃ o, decodeOpen b = .ok o ∧ Spec.parseOpen b = some o) ∨
    (∃ n, decodeOpen b = .err (.notif n true) ∧ Spec.parseOpen b = none ∧
      (n.code.toNat, n.sub.toNat) ∈ Spec.openStructFaults b) := by
  match b with
  | v :: a1 :: a2 :: h1 :: h2 :: i1 :: i2 :: i3 :: i4 :: opl :: rest =>
    rw [decodeOpen_cons, openStructFaults_cons]
    by_cases hl : opl.toNat ≠ rest.length
    · rw [if_pos hl, if_pos hl]
      exact .inr ⟨⟨2, 0, []⟩, rfl, by rw [parseOpen_cons, if_pos hl], by simp⟩
    rw [if_neg hl, if_neg hl]
    by_cases hr : rest = []
    · subst hr
      exact .inr ⟨⟨2, 0, []⟩, rfl, by rw [parseOpen_cons, if_neg hl]; rfl, by simp⟩
    have hl : opl.toNat = rest.length := Decidable.not_not.1 hl
    rw [if_neg (fun h => hr (List.eq_nil_of_length_eq_zero h)), parseOpen_block _ _ _ _ _ _ _ _ _ _ _ hl hr]
    unfold decodeParams
    rcases decodeParamsLoop_spec rest _ [] (Nat.le_refl _) (by have := opl.toNat_lt; omega) hr with
      ⟨ps, h1, h2⟩ | ⟨sub, h1, h2, h3⟩
    · rw [h1, h2]; exact .inl ⟨_, rfl, rfl⟩
    · rw [h1, h3]; exact .inr ⟨⟨2, sub, []⟩, rfl, rfl, h2⟩
  | [] | [_] | [_, _] | [_, _, _] | [_, _, _, _] | [_, _, _, _, _] | [_, _, _, _, _, _]
  | [_, _, _, _, _, _, _] | [_, _, _, _, _, _, _, _] | [_, _, _, _, _, _, _, _, _] =>
    exact .inr ⟨⟨1, 2, _⟩, rfl, rfl, by simp [Spec.openStructFaults]⟩

theorem decodeOpen_no_panic (b : Bytes) : decodeOpen b ≠ .panic := by
  rcases decodeOpen_cases b with ⟨_, h, _⟩ | ⟨_, h, _⟩ <;> rw [h] <;> (intro h; cases h)

/-- what `Spec.Representable` asks of one capabilities parameter -/
def ParamOK (p : List Cap) : Prop :=
  p ≠ [] ∧ (∀ c ∈ p, c.value.length ≤ 255) ∧ (Spec.capsWire p).length ≤ 255

theorem encodeCaps_flat (cs : List Cap) : (cs.map encodeCap).flatten = Spec.capsWire cs := rfl

theorem encodeCapsParam_ok (cs : List Cap) (h : ParamOK cs) :
    encodeCapsParam cs = some (Spec.paramWire cs) := by
  obtain ⟨h1, h2, h3⟩ := h
  unfold encodeCapsParam
  rw [encodeCaps_flat]
  have hpos : cs.length > 0 := List.length_pos_iff.2 h1
  have hany : (cs.any fun c => decide (c.value.length > 255)) = false := by
    rw [List.any_eq_false]; intro c hc; simpa using h2 c hc
  rw [if_pos hpos, hany, if_neg (by simp)]
  rw [if_neg (by omega)]; rfl

theorem encodeCapsParam_bad (cs : List Cap) (h : ¬ ParamOK cs) : encodeCapsParam cs = none := by
  unfold encodeCapsParam
  rw [encodeCaps_flat]
  by_cases h1 : cs.length > 0
  · rw [if_pos h1]
    cases hany : (cs.any fun c => decide (c.value.length > 255)) with
    | true => rfl
    | false =>
      rw [if_neg (by simp)]
      by_cases h3 : (Spec.capsWire cs).length > 255
      · rw [if_pos h3]
      · exfalso; apply h
        refine ⟨List.length_pos_iff.1 h1, ?_, by omega⟩
        intro c hc
        have := List.any_eq_false.1 hany c hc
        simpa using this
  · rw [if_neg h1]

theorem encodeParams_ok (ps : List (List Cap)) (h : ∀ p ∈ ps, ParamOK p) :
    encodeParams ps = some (Spec.paramsWire ps) := by
  induction ps with
  | nil => rfl
  | cons p ps ih =>
    rw [encodeParams, encodeCapsParam_ok p (h p List.mem_cons_self),
      ih (fun q hq => h q (List.mem_cons_of_mem _ hq))]
    simp [Spec.paramsWire]

theorem encodeParams_bad (ps : List (List Cap)) (h : ¬ ∀ p ∈ ps, ParamOK p) :
    encodeParams ps = none := by
  induction ps with
  | nil => exact absurd (by simp) h
  | cons p ps ih =>
    rw [encodeParams]
    by_cases h1 : ParamOK p
    · rw [encodeCapsParam_ok p h1, ih]
      intro h2; apply h
      intro q hq
      rcases List.mem_cons.1 hq with rfl | hq
      · exact h1
      · exact h2 q hq
    · rw [encodeCapsParam_bad p h1]

theorem encodeOpenBody_ok (o : OpenMsg) (h1 : ∀ p ∈ o.params, ParamOK p)
    (h2 : (Spec.paramsWire o.params).length ≤ 255) :
    encodeOpenBody o = some (Spec.openBody o) := by
  unfold encodeOpenBody
  rw [encodeParams_ok _ h1]
  simp only []
  rw [if_neg (by omega)]; rfl

theorem encodeOpenBody_bad (o : OpenMsg)
    (h : ¬ ((∀ p ∈ o.params, ParamOK p) ∧ (Spec.paramsWire o.params).length ≤ 255)) :
    encodeOpenBody o = none := by
  unfold encodeOpenBody
  by_cases h1 : ∀ p ∈ o.params, ParamOK p
  · rw [encodeParams_ok _ h1]
    simp only []
    rw [if_pos (by
      have : ¬ (Spec.paramsWire o.params).length ≤ 255 := fun h2 => h ⟨h1, h2⟩
      omega)]
  · rw [encodeParams_bad _ h1]

theorem openBody_length (o : OpenMsg) : (Spec.openBody o).length = 10 + (Spec.paramsWire o.params).length := by
  simp [Spec.openBody, Spec.u16, Spec.u32]; omega

theorem encodeOpenBody_length (o : OpenMsg) (b : Bytes) (h : encodeOpenBody o = some b) :
    b.length ≤ 265 := by
  by_cases hok : (∀ p ∈ o.params, ParamOK p) ∧ (Spec.paramsWire o.params).length ≤ 255
  · rw [encodeOpenBody_ok o hok.1 hok.2] at h; cases h; rw [openBody_length]; omega
  · rw [encodeOpenBody_bad o hok] at h; cases h

theorem representable_iff (o : OpenMsg) :
    Spec.Representable o ↔ o.params ≠ [] ∧ (∀ p ∈ o.params, ParamOK p) ∧ (Spec.paramsWire o.params).length ≤ 255 :=
  Iff.rfl

end CoreBGP.Lemmas
