import CoreBGP.Model.Peer
/-! Helper lemmas about the data of the L2 peer model: projections through `setF`, `St.rank` as numerals, `Dir.other`. -/
namespace CoreBGP.Lemmas.PeerLocal
open CoreBGP CoreBGP.Model

@[simp] theorem rank_disabled : St.rank .disabled = 0 := rfl
@[simp] theorem rank_idle : St.rank .idle = 1 := rfl
@[simp] theorem rank_connect : St.rank .connect = 2 := rfl
@[simp] theorem rank_active : St.rank .active = 3 := rfl
@[simp] theorem rank_openSent : St.rank .openSent = 4 := rfl
@[simp] theorem rank_openConfirm : St.rank .openConfirm = 5 := rfl
@[simp] theorem rank_established : St.rank .established = 6 := rfl

theorem rank_le_established (x : St) : x.rank ≤ St.rank .established := by
  cases x <;> decide

theorem not_lt_rank_of_established {a b : St} (h : a.rank < b.rank) : a ≠ .established := by
  intro ha
  subst ha
  cases b <;> revert h <;> decide

@[simp] theorem other_out : Dir.other .out = .inn := rfl
@[simp] theorem other_inn : Dir.other .inn = .out := rfl
theorem other_ne (i : Dir) : i.other ≠ i := by cases i <;> decide
@[simp] theorem other_other (i : Dir) : i.other.other = i := by cases i <;> rfl

@[simp] theorem setF_todo (s : PState) (i : Dir) (x : F) : (s.setF i x).todo = s.todo := by cases i <;> rfl
@[simp] theorem setF_holdDown (s : PState) (i : Dir) (x : F) : (s.setF i x).holdDown = s.holdDown := by cases i <;> rfl
@[simp] theorem setF_pdone (s : PState) (i : Dir) (x : F) : (s.setF i x).pdone = s.pdone := by cases i <;> rfl
@[simp] theorem setF_timerArmed (s : PState) (i : Dir) (x : F) : (s.setF i x).timerArmed = s.timerArmed := by
  cases i <;> rfl
@[simp] theorem setF_f_self (s : PState) (i : Dir) (x : F) : (s.setF i x).f i = x := by cases i <;> rfl
@[simp] theorem setF_other_f (s : PState) (i : Dir) (x : F) : (s.setF i.other x).f i = s.f i := by cases i <;> rfl
@[simp] theorem withTodo_f (s : PState) (l : List Instr) (i : Dir) : ({ s with todo := l } : PState).f i = s.f i := by
  cases i <;> rfl

end CoreBGP.Lemmas.PeerLocal
