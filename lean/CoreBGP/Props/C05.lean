import CoreBGP.Model.Packet
import CoreBGP.Model.Reader
import CoreBGP.Model.Update
import CoreBGP.Lemmas.Reader
import CoreBGP.Lemmas.UpdateDecode
import CoreBGP.Lemmas.Attrs
/-!
# C05 (decoder half) — the decoding entry points return instead of panicking, for every byte slice

In the model a Go runtime panic (slice bounds out of range) is the value `.panic`; it can only
arise where the Go code does index arithmetic (`b[2 : capLen+2]`, `b[wrl : wrl+2]`, `b[nhLen+1:]`),
which is where the model uses the bounds-checked `slice?` / `sliceFrom?` with Go's fixed-width
arithmetic. The decoders written by pattern matching over the byte list (typed attribute
decoders, prefixes, add-path tuples, NOTIFICATION) have no index expression that the model could
get wrong *silently*: each `b[i]`, `b[:n]` of the Go code sits under the length guard that the
pattern expresses, and the differential run (with `recover`) checks that the Go side agrees.
Lengths are `Nat`: there is no 65 535 bound in any statement.
-/
namespace CoreBGP.Props.C05
open CoreBGP CoreBGP.Model

/-- `UpdateDecoder.Decode` never panics: for every byte string of any length and callbacks of any
behaviour (that themselves return) -/
theorem decodeUpdate_no_panic (cb : Callbacks) (b : Bytes) : decodeUpdate cb b ≠ .panic :=
  Lemmas.decodeUpdate_no_panic cb b

/-- the MP_REACH_NLRI splitter never panics, for every next-hop length octet and every length -/
theorem mpReach_no_panic (flags : UInt8) (b : Bytes) (fn : MPReachArgs → Option Err) :
    mpReach flags b fn ≠ .panic :=
  Lemmas.mpReach_no_panic flags b fn

/-- the OPEN decoder never panics -/
theorem decodeOpen_no_panic (b : Bytes) : decodeOpen b ≠ .panic :=
  Lemmas.decodeOpen_no_panic b

/-- the capability-parameter decoder cannot panic on the inputs an OPEN can hand it (at most
255 bytes); on longer inputs the 8-bit `capLen+2` can wrap — which is why the bound matters -/
theorem decodeCaps_no_panic (b : Bytes) (h : b.length ≤ 255) : decodeCaps b ≠ .panic :=
  Lemmas.decodeCaps_no_panic b h

/-- the reader (framing + per-type decoding) never panics on any stream -/
theorem reader_no_panic (s : Bytes) : (readAll s).2 ≠ .panic :=
  Lemmas.reader_no_panic s

end CoreBGP.Props.C05
