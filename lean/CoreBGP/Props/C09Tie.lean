import CoreBGP.Model.Peer
import CoreBGP.Gen.Transitions
/-!
# Tie between the FSM state graph of the L2 model and the source (`fsm.go`)

`Gen.stateReturns` (regenerated from the Go AST on every run) lists every `return <state>, <err>` of
the six state functions, with the way the accompanying error is built. The theorems say that the model's
state functions (`runOutcomes`, and `fOnClose` for the `closeCh` branches) leave a state exactly along
those returns, with an error of a class that such a return can carry:

* `model_step_in_code` — every next control location the model produces is backed by a return in the code;
* `code_return_in_model` — every return in the code is produced by the model for some state of the FSM.

A change of the code's state graph or of how an error is wrapped (`%w` dropped: `handleError` no longer
sees the NOTIFICATION) breaks one of them, whether or not a scenario happens to exercise it.
-/
namespace CoreBGP.Props.C09Tie
open CoreBGP CoreBGP.Model

def fnName : St → String
  | .idle => "idle" | .connect => "connect" | .active => "active" | .openSent => "openSent"
  | .openConfirm => "openConfirm" | .established => "established" | .disabled => "-"

def stName : St → String
  | .idle => "idleState" | .connect => "connectState" | .active => "activeState" | .openSent => "openSentState"
  | .openConfirm => "openConfirmState" | .established => "establishedState" | .disabled => "disabledState"

/-- the returns of the state function of `s` as (state, error shape) (the extractor resolves `return f.helper()`) -/
def codeRows (s : St) : List (String × String) :=
  (Gen.stateReturns.filter (·.fn == fnName s)).map fun r => (r.to, r.err)

/-- a return without an error -/
def plain (e : String) : Bool := e == "nil" || e == "-"

/-- error classes (`handleError`'s view) that a return of this shape can carry: a `notificationError` built on
the spot is Cease or not; an error wrapped with `%w` may in addition be a plain transport error -/
def admits (e : String) (k : EK) : Bool :=
  match e with
  | "notif:out=true" | "notif:out=false" => k == .cease || k == .damp
  | "wrap:%w" => true
  | _ => false

/-- is the control location `pc` (reached by a step of the state function of `s`) backed by a return? -/
def backed (s : St) (pc : FPc) : Bool :=
  match pc with
  | .req t => t.frm == s && (codeRows s).any fun r => r.1 == stName t.to && plain r.2
  | .errSend a d k => a == s && (codeRows s).any fun r => r.1 == stName d && admits r.2 k
  | _ => true

def allEK : List EK := [.cease, .damp, .io]

/-- the control locations by which the model leaves the state function of `s`: a transition request, or an error
hand-off (towards Idle with any error class) -/
def exits : St → List FPc
  | .idle => [.req ⟨.idle, .connect⟩, .req ⟨.idle, .disabled⟩]
  | .connect => [.req ⟨.connect, .openSent⟩, .req ⟨.connect, .idle⟩, .req ⟨.connect, .disabled⟩]
  | .active => [.req ⟨.active, .openSent⟩, .req ⟨.active, .idle⟩, .req ⟨.active, .connect⟩, .req ⟨.active, .disabled⟩]
  | .openSent => [.req ⟨.openSent, .openConfirm⟩, .errSend .openSent .active .io, .errSend .openSent .disabled .cease] ++
      allEK.map (.errSend .openSent .idle)
  | .openConfirm => [.req ⟨.openConfirm, .established⟩, .errSend .openConfirm .disabled .cease] ++
      allEK.map (.errSend .openConfirm .idle)
  | .established => .errSend .established .disabled .cease :: allEK.map (.errSend .established .idle)
  | .disabled => []

/-- the generated table, evaluated: each of them is a `return` of the code -/
theorem exits_backed : ∀ s ∈ [St.idle, .connect, .active, .openSent, .openConfirm, .established], ∀ pc ∈ exits s,
    backed s pc = true := by decide +kernel

theorem mem_allEK (k : EK) : k ∈ allEK := by cases k <;> decide

theorem runOutcomes_pc {i : Dir} {x : F} {s : St} {o : Label × F} (ho : o ∈ runOutcomes i x s) :
    o.2.pc = x.pc ∨ o.2.pc ∈ exits s := by
  cases s <;> simp only [runOutcomes] at ho
  case disabled => simp at ho
  case idle => simp at ho; subst ho; simp [exits]
  case connect => simp at ho; rcases ho with rfl | rfl | rfl <;> simp [exits]
  case active =>
    split at ho
    · simp at ho; rcases ho with rfl | rfl <;> simp [exits]
    · split at ho <;> simp at ho; subst ho; simp [exits]
  case openSent =>
    simp only [List.mem_append, List.mem_singleton] at ho
    rcases ho with rfl | ho
    · simp [exits, allEK]
    · split at ho <;> simp at ho
      · rcases ho with rfl | rfl <;> simp [exits, allEK]
      · subst ho; simp [exits]
      · subst ho; simp [exits, mem_allEK]
  case openConfirm =>
    simp only [List.mem_append, List.mem_cons, List.not_mem_nil, or_false] at ho
    rcases ho with (rfl | rfl) | ho
    · simp [exits, allEK]
    · simp [exits, allEK]
    · split at ho <;> simp at ho <;> subst ho <;> simp [exits, mem_allEK]
  case established =>
    split at ho
    · simp at ho; subst ho; simp
    · split at ho
      · simp at ho; subst ho; simp [exits, allEK]
      · simp only [List.mem_append, List.mem_cons, List.not_mem_nil, or_false] at ho
        rcases ho with (rfl | rfl) | ho
        · simp [exits, allEK]
        · simp [exits, allEK]
        · split at ho <;> simp at ho <;> subst ho <;> simp [exits, mem_allEK]

theorem fOnClose_pc {i : Dir} {x : F} {s : St} {o : Label × F} (hx : x.pc = .run s) (ho : o ∈ fOnClose i x) :
    o.2.pc ∈ exits s := by
  cases s <;> simp only [fOnClose, hx] at ho
  case established => split at ho <;> simp at ho; subst ho; simp [exits]
  all_goals simp at ho
  all_goals subst ho; simp [exits]

private theorem b_run (s t : St) : backed s (.run t) = true := rfl

/-- every step of a state function of the model — ordinary outcome or `closeCh` branch — that leaves the
state function does so along a `return` of the code, with an error class that return can carry -/
theorem model_step_in_code (i : Dir) (x : F) (s : St) (hx : x.pc = .run s) (o : Label × F)
    (ho : o ∈ runOutcomes i x s ∨ o ∈ fOnClose i x) : backed s o.2.pc = true := by
  have hs : exits s ≠ [] → s ∈ [St.idle, .connect, .active, .openSent, .openConfirm, .established] := by
    cases s <;> simp [exits]
  have hpc : o.2.pc = x.pc ∨ o.2.pc ∈ exits s := ho.elim runOutcomes_pc fun h => .inr (fOnClose_pc hx h)
  rcases hpc with h | h
  · rw [h, hx]; exact b_run s s
  · exact exits_backed s (hs (List.ne_nil_of_mem h)) _ h

/-- candidate FSM states used as witnesses below -/
def witnesses (s : St) : List (Dir × F) :=
  let heads : List (List MsgC) := [[], [.openOk], [.openBad], [.ka], [.upd], [.updVeto], [.notifCease], [.notifOther], [.garbage], [.eof]]
  ([Dir.out, Dir.inn].flatMap fun i => [true, false].flatMap fun c => [true, false].flatMap fun e => heads.map fun q =>
    (i, ({ pc := .run s, conn := c, inEst := e, inq := q } : F)))

/-- does the model produce, from one of the witnesses, a step that matches the return (to, e)? -/
def produced (s : St) (r : String × String) : Bool :=
  (witnesses s).any fun (i, x) =>
    (runOutcomes i x s ++ fOnClose i x).any fun o =>
      match o.2.pc with
      | .req t => t.frm == s && stName t.to == r.1 && plain r.2
      | .errSend a d k => a == s && stName d == r.1 && admits r.2 k
      | _ => false

/-- every `return` of every state function in the code is a step of the model -/
theorem code_return_in_model :
    ∀ s ∈ [St.idle, .connect, .active, .openSent, .openConfirm, .established], ∀ r ∈ codeRows s, produced s r = true := by
  decide +kernel

/-- every state function can be left towards `disabledState` (it listens on `closeCh`) -/
theorem every_state_offers_stop :
    ∀ s ∈ [St.idle, .connect, .active, .openSent, .openConfirm, .established],
      (codeRows s).any (fun r => r.1 == "disabledState") = true := by
  decide

end CoreBGP.Props.C09Tie
