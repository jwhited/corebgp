import CoreBGP.Model.Peer
import CoreBGP.Lemmas.Peer
/-!
# C01 — one Established session per peer; well-formed plugin callback history

Invariants of the L2 transition system `Model.next` over all reachable states (`PReach`, induction
over the step relation: every interleaving of the manager, the two FSMs and the environment, no
bound on steps). The plugin-history language `(E⁺E⁻(H⁺H⁻)*C⁺C⁻)*` is regular; the ghost `hist` is
the state of its monitor automaton (`Spec.hstep`), `none` being the error sink. Callbacks are atomic
enter/exit pairs that always return (trusted base).
-/
namespace CoreBGP.Props.C01
open CoreBGP CoreBGP.Model CoreBGP.Lemmas

def isCallback : Label → Bool
  | .onEstablished _ | .onClose _ | .handler _ => true
  | _ => false

/-- at most one FSM is between "OnEstablished entered" and "OnClose returned" -/
theorem mutex (d p : Bool) (s : PState) (h : PReach d p s) : ¬ (s.fo.inEst = true ∧ s.fi.inEst = true) := by
  have hi := pinv_reachable h
  rintro ⟨ho, hin⟩
  cases hin.symm.trans (hi.est_excl .out ((hi.ok .out).run_st _ ((hi.ok .out).inEst_run ho)))

/-- the manager never records both FSMs as Established -/
theorem not_both_established (d p : Bool) (s : PState) (h : PReach d p s) :
    ¬ (s.stO = .established ∧ s.stI = .established) :=
  (pinv_reachable h).mutex

/-- an FSM is inside Established only after the manager echoed that transition -/
theorem in_est_recorded (d p : Bool) (s : PState) (h : PReach d p s) (i : Dir) :
    (s.f i).inEst = true → s.st i = .established :=
  fun he => ((pinv_reachable h).ok i).run_st _ (((pinv_reachable h).ok i).inEst_run he)

/-- the per-peer callback history is a prefix of `(E⁺E⁻(H⁺H⁻)*C⁺C⁻)*`: the monitor never reaches its
error sink, and its state is `up` exactly while some FSM is inside its session -/
theorem history_well_formed (d p : Bool) (s : PState) (h : PReach d p s) :
    s.hist = some (if s.fo.inEst || s.fi.inEst then .up else .idle) :=
  (pinv_reachable h).hist_ok

/-- by the time `peer.stop` has returned (Close / DeletePeer), every OnEstablished is matched by its
OnClose and no callback can start any more -/
theorem matched_at_stop (d p : Bool) (s : PState) (h : PReach d p s) (hd : s.pdone = true) :
    s.hist = some .idle ∧ ∀ l s', (l, s') ∈ next s → isCallback l = false := by
  have hi := pinv_reachable h
  obtain ⟨htodo, hp⟩ := hi.done hd
  have ha : ∀ i, (s.f i).pc = .absent := fun i => ((hi.ok i).empty (hp i)).1
  refine ⟨?_, fun l s' hm => ?_⟩
  · have := hi.hist_ok
    rwa [(hi.ok .out).inEst_false_of_pc (by rw [ha]; nofun), (hi.ok .inn).inEst_false_of_pc (by rw [ha]; nofun)] at this
  · cases PStep.of_mem hm with
    | main _ hd' => cases hd.symm.trans hd'
    | instr ht => cases htodo.symm.trans ht
    | fclose i _ hl => rw [ha] at hl; cases hl
    | frun i st hpc => cases (ha i).symm.trans hpc
    | apiStop | rsend | lost => rfl

-- non-vacuity: a reachable state in which the outbound session is up
example : ∃ s, PReach true false s ∧ s.fo.inEst = true := by
  exact exists_of_follow (·.fo.inEst)
    [0, 0, 0, 0, 1, 0, 0, 0, 0, 1, 0, 0, 0, 0, 3, 2, 0, 0, 0, 0, 8, 3, 0, 0, 0, 0, 0, 1] (by decide)

end CoreBGP.Props.C01
