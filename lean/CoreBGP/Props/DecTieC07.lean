import CoreBGP.Props.DecTie
/-! Decision ties of C07 (see `Props.DecTie` for the method). -/
namespace CoreBGP.Props.DecTieC07
open CoreBGP CoreBGP.Model CoreBGP.Gen CoreBGP.Lemmas.DecTie CoreBGP.Props.DecTie

/-- the generated table, evaluated (a changed decision of `handleStateTransition` is reported here) -/
private theorem d_handle :
    decision "peer.handleStateTransition" "case" 0 = .cmp "==" "t.to" "establishedState" ∧
    decision "peer.handleStateTransition" "case" 1 = .and (.cmp "==" "i" "in") (.cmp "<" "t.to" "t.from") ∧
    decision "peer.handleStateTransition" "case" 2 = .cmp "==" "t.to" "openConfirmState" ∧
    decision "peer.handleStateTransition" "case" 3 = .cmp "==" "p.fsmState[other(i)]" "establishedState" ∧
    decision "peer.handleStateTransition" "case" 4 = .cmp "==" "p.fsmState[other(i)]" "openConfirmState" ∧
    decision "peer.handleStateTransition" "if" 0 =
      .or (.and (.atom "dominant") (.cmp "==" "i" "out")) (.and (.not (.atom "dominant")) (.cmp "==" "i" "in")) ∧
    decision "peer.handleStateTransition" "assign:dominant" 0 =
      .or (.cmp ">" "localID" "remoteID")
        (.and (.cmp "==" "localID" "remoteID") (.cmp ">" "p.config.LocalAS" "p.config.RemoteAS")) := by
  decide +kernel


def handleEnv (s : PState) (i : Dir) (t : Trans) : Env :=
  envOf (stateConsts ++ [("t.to", rankI t.to), ("t.from", rankI t.frm), ("i", dirI i),
    ("p.fsmState[other(i)]", rankI (s.st i.other)), ("dominant", b2i s.dominant)])

/-- the Go `switch` with the translated conditions in the positions the source has them, each branch
returning the model's instruction list for what the branch's statements do -/
def goHandle (ρ : Env) (i : Dir) (t : Trans) : List Instr :=
  let d := fun k n => BExp.eval ρ (decision "peer.handleStateTransition" k n)
  if d "case" 0 then [.disableLog i.other, .sendT i t]               -- disableFSM(other(i)); sendTransitionToFSM(i, t)
  else if d "case" 1 then [.disableLog i, .enable .out false]         -- disableFSM(i); enableFSM(out, nil)
  else if d "case" 2 then
    if d "case" 3 then [.disableLog i]                                -- other is Established: disableFSM(i)
    else if d "case" 4 then
      if d "if" 0 then [.collSel i t] else [.disableLog i]            -- collision: the select, or disableFSM(i)
    else [.sendT i t]
  else [.sendT i t]

theorem collision_switch (s : PState) (i : Dir) (t : Trans) :
    expandHandle s i t = goHandle (handleEnv s i t) i t := by
  simp only [expandHandle_ite, goHandle, d_handle, handleEnv, stateConsts, List.cons_append, List.nil_append, envOf_cons,
    String.reduceEq, ↓reduceIte, eval_atom, eval_not, eval_and, eval_or, eval_eq, eval_lt, rankI_beq, rankI_lt,
    b2i_ne_zero, dirI_in, dirI_out]
  simp

/-- `dominant := localID > remoteID || (localID == remoteID) && (LocalAS > RemoteAS)` is the rule of
RFC 4271 6.8 / RFC 6286: higher BGP Identifier, then higher AS number -/
theorem dominance (localID remoteID localAS remoteAS : UInt32) :
    BExp.eval (envOf [("localID", (localID.toNat : Int)), ("remoteID", (remoteID.toNat : Int)),
        ("p.config.LocalAS", (localAS.toNat : Int)), ("p.config.RemoteAS", (remoteAS.toNat : Int))])
      (decision "peer.handleStateTransition" "assign:dominant" 0)
    = decide (localID > remoteID ∨ (localID = remoteID ∧ localAS > remoteAS)) := by
  simp only [d_handle, envOf_cons, String.reduceEq, ↓reduceIte, eval_or, eval_and, eval_gt, eval_eq, natCast_beq]
  simp [UInt32.lt_iff_toNat_lt, ← UInt32.toNat_inj]

end CoreBGP.Props.DecTieC07
