import CoreBGP.Props.PathTie
/-! Path tie of C01: where the session callbacks are called in the regenerated control paths of `fsm.go`. -/
namespace CoreBGP.Props.PathTieC01
open CoreBGP CoreBGP.Model CoreBGP.Gen CoreBGP.Props.PathTie

/-- `OnEstablished` is called once, before the loop of `established`, and on no path of any loop -/
theorem established_prologue :
    (prologueOf "established").map (pathVis fun _ => none) = [[.onEstablished]] ∧
    (prologueOf "openSent").map (pathVis fun _ => none) = [] ∧
    (prologueOf "openConfirm").map (pathVis fun _ => none) = [[]] ∧
    ∀ ph ∈ phases, ∀ p ∈ pathsOf (fnName ph), (pathVis (fun _ => none) p).contains .onEstablished = false := by
  decide +kernel

/-- `OnClose` is the last visible effect of every path that leaves `established`, is called once on it, after the
connection was closed, and is called on no path of `openSent` / `openConfirm` -/
theorem onclose_placement :
    (∀ p ∈ pathsOf "established", p.exit = "return" →
      (pathVis (fun _ => none) p).getLast? = some .onClose ∧ ((pathVis (fun _ => none) p).filter (· == .onClose)).length = 1 ∧
      ((pathVis (fun _ => none) p).dropLast).getLast? = some .close) ∧
    (∀ p ∈ pathsOf "established", p.exit ≠ "return" → (pathVis (fun _ => none) p).contains .onClose = false) ∧
    ∀ fn ∈ ["openSent", "openConfirm"], ∀ p ∈ pathsOf fn, (pathVis (fun _ => none) p).contains .onClose = false := by
  decide +kernel

end CoreBGP.Props.PathTieC01
