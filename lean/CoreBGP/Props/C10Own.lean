import CoreBGP.Gen.Access
import CoreBGP.Gen.Selects
/-!
# C10 (data-race clause) — ownership discipline over the extracted access table

`Gen.accesses` is regenerated from /repo on every run (SSA field accesses of `peer`, `fsm`, `Server`,
`updateMessageWriter`, attributed to goroutine roots through the VTA call graph without crossing `go`
statements). The discipline: every field is

* **confined** — all its non-constructor accesses come from one goroutine root; or
* **immutable after construction** — it is only written by the function that allocates the object
  (before any goroutine that reads it is spawned) and never again; or
* **a synchronisation object** (`sync.Mutex`, `sync.Once`); or
* **handed over** — listed in `handovers` below with the synchronisation that orders the accesses in
  both directions; each hand-over names facts of the *regenerated* select / channel-operation inventory
  (`Gen.selects`, `Gen.bareChanOps`) that must be present (e.g. the join on `readerDoneCh`), and the
  exact set of roots that may touch the field.

`ownership` says no field is left over. That the discipline implies the absence of data races in the
sense of the Go memory model (spawn, channel, close and mutex happens-before edges) is the standard
ownership argument and is part of the trusted base (DESIGN section 4); accesses the SSA extractor
cannot see (reflection, unsafe, inside the standard library) are outside it. The Go race detector is
run by the thorough tier as a cross-check and as the search aid when this theorem breaks.
-/
namespace CoreBGP.Props.C10Own
open CoreBGP

def fields : List String := (Gen.accesses.map (·.field)).eraseDups

/-- non-constructor accesses of a field -/
def live (f : String) : List Gen.AccessFact := Gen.accesses.filter fun a => a.field = f ∧ a.kind ≠ "cw"

def rootsOf (f : String) : List String := ((live f).map (·.root)).eraseDups

def syncObjects : List String := ["Server.mu", "Server.closeOnce", "peer.closeOnce", "fsm.closeOnce", "fsm.closeReaderOnce"]

def hasOp (facts : List Gen.SelectFact) (fn op : String) : Bool := facts.any fun s => s.fn = fn ∧ s.cases.contains op

/-- a hand-over: the field, the roots that may touch it, and the synchronisation facts (function,
channel operation) that must exist in the code for the justification to stand -/
structure Handover where
  field : String
  roots : List String
  needSelect : List (String × String) := []     -- must appear as a case of some select in that function
  needBare : List (String × String) := []       -- must appear as an unconditional channel operation there
  why : String

def readerJoin : List (String × String) := [("fsm.cleanupConnAndReader", "recv f.readerDoneCh")]

def handovers : List Handover := [
  -- the reader goroutine: its channels and the connection are (re)assigned by `fsm.run` only while no reader
  -- exists: `startReading` runs after `cleanupConnAndReader` joined the previous one (`<-f.readerDoneCh`),
  -- and `go f.read()` follows the assignments (spawn edge)
  { field := "fsm.conn", roots := ["fsm.read", "fsm.run"], needBare := readerJoin, why := "spawn + join(readerDoneCh)" },
  { field := "fsm.closeReaderCh", roots := ["fsm.read", "fsm.run"], needBare := readerJoin, why := "spawn + join(readerDoneCh)" },
  { field := "fsm.readerDoneCh", roots := ["fsm.read", "fsm.run"], needBare := readerJoin, why := "spawn + join(readerDoneCh)" },
  { field := "fsm.readerErrCh", roots := ["fsm.read", "fsm.run"], needBare := readerJoin, why := "spawn + join(readerDoneCh)" },
  { field := "fsm.readerMsgCh", roots := ["fsm.read", "fsm.run"], needBare := readerJoin, why := "spawn + join(readerDoneCh)" },
  -- the dial goroutine reads `f.dialResultCh` once when it starts (deferred close); `fsm.run` assigns it
  -- before the `go` and again only after it received that goroutine's single result
  { field := "fsm.dialResultCh", roots := ["fsm.dialPeer$1", "fsm.run"],
    needSelect := [("fsm.connect", "recv f.dialResultCh")], needBare := [("fsm.cleanup", "recv f.dialResultCh"), ("fsm.dialPeer$1", "send dialResultCh")],
    why := "spawn + receipt of the single dial result" },
  -- the keepalive-manager goroutine reads the negotiated timer values; `fsm.run` rewrites them in the next
  -- OpenSent — only after `established` has waited for the manager to exit
  { field := "fsm.holdTime", roots := ["fsm.established$1", "fsm.run"], needBare := [("fsm.established", "recv kaManagerDoneCh")], why := "spawn + join(kaManagerDoneCh)" },
  { field := "fsm.keepAliveInterval", roots := ["fsm.established$1", "fsm.run"], needBare := [("fsm.established", "recv kaManagerDoneCh")], why := "spawn + join(kaManagerDoneCh)" },
  { field := "fsm.keepAliveTimer", roots := ["fsm.established$1", "fsm.run"], needBare := [("fsm.established", "recv kaManagerDoneCh")], why := "spawn + join(kaManagerDoneCh)" },
  -- `remoteID` is written by the FSM in OpenSent before it offers the OpenConfirm transition, and read by
  -- the manager after it received that transition (unbuffered rendezvous)
  { field := "fsm.remoteID", roots := ["fsm.run", "peer.run"],
    needSelect := [("fsm.run", "send f.peer.getFSMTransitionCh(f)"), ("peer.run", "recv p.transitionCh[out]"), ("peer.run", "recv p.transitionCh[in]")],
    why := "transition rendezvous" },
  -- `peer.start()` (caller of Serve / AddPeer, under Server.mu) fills the out slot before `go p.run()`;
  -- afterwards only the manager goroutine touches the two tables
  { field := "peer.fsms", roots := ["api:Server.AddPeer", "api:Server.Serve", "peer.run"], why := "written by start() before go p.run() (spawn); then manager only" },
  { field := "peer.fsmState", roots := ["api:Server.AddPeer", "api:Server.Serve", "peer.run"], why := "written by start() before go p.run() (spawn); then manager only" },
  { field := "peer.startupDelayTimer", roots := ["api:Server.AddPeer", "peer.run"], why := "newPeer drains the timer before the peer is started (spawn); then manager only" },
  -- the registry and the run state: every access holds Server.mu (checked below: `mutex_held`)
  { field := "Server.peers", roots := ["Server.Serve$2", "api:Server.AddPeer", "api:Server.DeletePeer", "api:Server.GetPeer", "api:Server.ListPeers", "api:Server.Serve"], why := "Server.mu" },
  { field := "Server.serving", roots := ["api:Server.AddPeer", "api:Server.Close", "api:Server.DeletePeer", "api:Server.Serve"], why := "Server.mu" }
]

inductive Verdict where
  | confined (root : String) | immutable | syncObject | handedOver (why : String) | unordered
deriving Repr, DecidableEq

def sameSet (a b : List String) : Bool := a.all b.contains && b.all a.contains

def handoverOK (h : Handover) : Bool :=
  sameSet (rootsOf h.field) h.roots &&
  h.needSelect.all (fun (fn, op) => hasOp Gen.selects fn op) &&
  h.needBare.all (fun (fn, op) => hasOp Gen.bareChanOps fn op)

def verdict (f : String) : Verdict :=
  if syncObjects.contains f then .syncObject
  else if !((live f).any fun a => a.kind = "w") then .immutable
  else match rootsOf f with
    | [r] => .confined r
    | _ =>
      match handovers.find? (·.field = f) with
      | some h => if handoverOK h then .handedOver h.why else .unordered
      | none => .unordered

/-- every field of the four shared structures is confined, immutable after construction, a
synchronisation object, or handed over across a synchronisation that exists in the code -/
theorem ownership : (fields.all fun f => verdict f != .unordered) = true := by
  decide +kernel

/-- every root that touches the registry or the run state also takes `Server.mu` -/
theorem mutex_held :
    (Gen.accesses.all fun a =>
      !((a.field = "Server.peers" ∨ a.field = "Server.serving") ∧ a.kind ≠ "cw") ||
      Gen.accesses.any fun b => b.field = "Server.mu" ∧ b.root = a.root) = true := by
  decide +kernel

/-- every blocking point of the FSM goroutine and of the manager offers its close channel: each
`select` in the FSM's functions has a `recv f.closeCh` case, each in the manager's a `recv p.closeCh`
(the L2 model's `FPc.listensClose` / the `pclosed` alternatives rest on exactly this) -/
theorem blocking_points_offer_close :
    (∀ s ∈ Gen.selects, s.fn ∈ ["fsm.run", "fsm.idle", "fsm.connect", "fsm.active", "fsm.openSent$1", "fsm.openConfirm$1", "fsm.established$2"] →
      s.cases.contains "recv f.closeCh" = true) ∧
    (∀ s ∈ Gen.selects, s.fn ∈ ["peer.run", "peer.sendTransitionToFSM", "peer.handleStateTransition", "peer.incomingConnection"] →
      s.cases.contains "recv p.closeCh" = true) ∧
    (∀ s ∈ Gen.selects, s.fn = "fsm.read" → s.cases.contains "recv f.closeReaderCh" = true) := by decide +kernel

/-- the select inventory the L2 model was written against (a changed `select` re-opens the model) -/
theorem select_inventory :
    (Gen.selects.filter fun s => s.fn ∈ ["fsm.run", "peer.run", "peer.sendTransitionToFSM", "peer.handleStateTransition",
        "peer.incomingConnection"]).map (fun s => (s.fn, s.cases)) =
    [("fsm.run", ["recv f.closeCh", "send f.peer.getFSMTransitionCh(f)"]),
     ("fsm.run", ["recv f.closeCh", "recv f.peer.getFSMTransitionCh(f)"]),
     ("fsm.run", ["recv f.closeCh", "send f.peer.getFSMErrorCh(f)"]),
     ("peer.handleStateTransition", ["recv p.closeCh", "recv p.transitionCh[other(i)]", "send p.fsms[other(i)].closeCh"]),
     ("peer.incomingConnection", ["recv p.closeCh", "send p.inConnCh"]),
     ("peer.run", ["recv p.closeCh", "recv p.errorCh[in]", "recv p.errorCh[out]", "recv p.inConnCh",
                   "recv p.startupDelayTimer.C", "recv p.transitionCh[in]", "recv p.transitionCh[out]"]),
     ("peer.sendTransitionToFSM", ["recv p.closeCh", "send p.transitionCh[i]"])] := by decide +kernel

end CoreBGP.Props.C10Own
