import CoreBGP.Model.Update
import CoreBGP.Spec.Update
import CoreBGP.Lemmas.UpdateDecode
/-!
# C16 — UpdateDecoder partitions an UPDATE exactly as its length fields dictate
-/
namespace CoreBGP.Props.C16
open CoreBGP CoreBGP.Model

def toModelCall : Spec.Call → Call
  | .wr b => .wr b
  | .attr c f b => .attr c f b
  | .nlri b => .nlri b

/-- with callbacks that return nil, the calls made are exactly: nothing if a length field overruns
the message; else the withdrawn-routes bytes, then the first occurrence of each attribute in wire
order with (code, flags, exact value) — stopping, without an NLRI call, at a repeated
MP_REACH/MP_UNREACH — then the NLRI bytes; an overrunning attribute header or value ends
attribute iteration but NLRI is still delivered. For byte strings of every length. -/
theorem partition (cb : Callbacks) (b : Bytes) (hnil : ∀ h c, cb h c = none) :
    ∃ e, decodeUpdate cb b = .ok ((Spec.expectedCallsNil b).map toModelCall, e) := by
  obtain ⟨e, h, _⟩ := Lemmas.Decode.decodeUpdate_run cb b
  refine ⟨e, h.trans ?_⟩
  unfold Lemmas.Decode.script Spec.expectedCallsNil
  split
  next h4 => rw [Lemmas.partition_short h4]; rfl
  · cases Spec.partition b with
    | none => rfl
    | some t =>
      simp only [Lemmas.Decode.run_tail_nil cb hnil]
      cases (Spec.firstOccurrences (Spec.parseAttrs t.2.1).1 []).2 <;>
        simp [toModelCall, Lemmas.attrCall]

/-- reference-parser sanity: a block built from whole attributes parses back to them -/
theorem parseAttrs_wire (as : List Spec.Attr)
    (hfit : ∀ a ∈ as, (a.flags.toNat / 16 % 2 = 1 → a.value.length ≤ 65535) ∧ (a.flags.toNat / 16 % 2 = 0 → a.value.length ≤ 255)) :
    Spec.parseAttrs (as.map Spec.attrWire).flatten = (as, []) :=
  Lemmas.attrs_wire as hfit _ (Nat.lt_succ_self _)

/-- reconstruction: the parsed attributes and the junk are a partition of the block -/
theorem parseAttrs_reconstruct (b : Bytes) :
    ((Spec.parseAttrs b).1.map Spec.attrWire).flatten ++ (Spec.parseAttrs b).2 = b :=
  Lemmas.attrs_reconstruct _ b

/-- the three sections are a partition of the body -/
theorem partition_reconstruct (b w a n : Bytes) (h : Spec.partition b = some (w, a, n)) :
    Spec.u16 w.length ++ w ++ Spec.u16 a.length ++ a ++ n = b ∧ w.length ≤ 65535 ∧ a.length ≤ 65535 :=
  Lemmas.partition_reconstruct b w a n h

example : Spec.expectedCallsNil [0, 0, 0, 4, 0x40, 1, 1, 0, 8, 10] = [.wr [], .attr 1 0x40 [0], .nlri [8, 10]] := by decide

end CoreBGP.Props.C16
