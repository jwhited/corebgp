import CoreBGP.Model.Peer
import CoreBGP.Lemmas.Peer
import CoreBGP.Lemmas.PeerLocal
/-!
# C12 (L2 half) — the hold-down: both connections dropped, no dial, inbound refused, until the timer fires
-/
namespace CoreBGP.Props.C12L2
open CoreBGP CoreBGP.Model CoreBGP.Lemmas
open CoreBGP.Lemmas.PeerLocal

/-- an error handed to the manager changes the damping state iff its class is `damp` (a NOTIFICATION
sent or received with a code other than Cease): both FSMs are then stopped before the hold-down
starts; Cease and I/O errors leave everything as it is -/
theorem error_classes (s : PState) (i : Dir) (st dd : St) (k : EK) (h : (s.f i).pc = .errSend st dd k)
    (hm : s.todo = []) (hnd : s.pdone = false) :
    ∃ s', (Label.tau, s') ∈ pMain s ∧
      s'.todo = .logErr i :: (if k = .damp then [.disableLog .inn, .disableLog .out, .damp] else []) ∧
      s'.holdDown = s.holdDown ∧ s'.timerArmed = s.timerArmed := by
  have _ := hm  -- (not needed: `pMain` is stated directly)
  exact ⟨_, (MainStep.err i st dd k h).mem hnd, rfl, setF_holdDown .., setF_timerArmed ..⟩

/-- while the peer is held down both FSM slots are empty — in every reachable state -/
theorem holddown_slots_empty (d p : Bool) (s : PState) (h : PReach d p s) (hh : s.holdDown = true) :
    s.presentO = false ∧ s.presentI = false ∧ s.fo.pc = .absent ∧ s.fi.pc = .absent := by
  have hi := pinv_reachable h
  have hp := (hi.hold hh).1
  exact ⟨hp .out, hp .inn, ((hi.ok .out).empty (hp .out)).1, ((hi.ok .inn).empty (hp .inn)).1⟩

/-- … hence no outbound attempt is made and no session callback runs while it is held down -/
theorem holddown_no_dial (d p : Bool) (s : PState) (h : PReach d p s) (hh : s.holdDown = true) :
    ∀ l s', (l, s') ∈ next s → l ≠ .dial ∧ (∀ i, l ≠ .onEstablished i) := by
  have hi := pinv_reachable h
  intro l s' hm
  have key : fsmOnly l = true → False := fun hl => by
    obtain ⟨i, st, hpc, -⟩ := (PStep.of_mem hm).of_fsmOnly hl
    cases ((hi.ok i).empty ((hi.hold hh).1 i)).1.symm.trans hpc
  exact ⟨fun e => key (e ▸ rfl), fun i e => key (e ▸ rfl)⟩

/-- … and an inbound connection is refused (closed without an FSM, no effect on the state) -/
theorem holddown_refuses_inbound (s : PState) (hh : s.holdDown = true) (a : Bool) (s' : PState)
    (h : (Label.inConn a, s') ∈ pMain s) : a = false ∧ s' = s := by
  cases (MainStep.of_mem h).2 with
  | refuse => exact ⟨rfl, rfl⟩
  | accept hc => rw [hh] at hc; cases hc

/-- hold-down flag ⇔ back-off timer armed (until the peer is stopped) -/
theorem holddown_iff_timer (d p : Bool) (s : PState) (h : PReach d p s) (hnd : s.pdone = false) :
    s.holdDown = s.timerArmed :=
  (pinv_reachable h).timer hnd

/-- when the timer fires the flag is cleared and the outbound FSM is re-created: the peer is retried -/
theorem timer_ends_holddown (s : PState) (ht : s.timerArmed = true) (hm : s.todo = []) (hnd : s.pdone = false) :
    (Label.logUndamp, { s with todo := [.enable .out false], holdDown := false, timerArmed := false }) ∈ next s := by
  simp only [next, hm, List.mem_append]
  exact .inl (.inl (.inl (.inl ((MainStep.timer ht).mem hnd))))

end CoreBGP.Props.C12L2
