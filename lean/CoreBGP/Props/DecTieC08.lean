import CoreBGP.Props.DecTie
/-! Decision ties of C08 (see `Props.DecTie` for the method): the header checks of the reader goroutine `fsm.read`. -/
namespace CoreBGP.Props.DecTieC08
open CoreBGP CoreBGP.Model CoreBGP.Gen CoreBGP.Lemmas.DecTie CoreBGP.Props.DecTie

/-- the generated table, evaluated (a changed header check of `fsm.read` is reported here) -/
private theorem d_read :
    decision "fsm.read" "if" 1 = .cmp "!=" "header[i]" "0xFF" ∧
    decision "fsm.read" "if" 2 = .or (.cmp "<" "bodyLen" "0") (.cmp ">" "bodyLen+headerLength" "maxMessageLength") ∧
    decision "fsm.read" "if" 3 = .cmp ">" "bodyLen" "0" := by decide +kernel

/-- the length check: with `bodyLen = int(length) - headerLength` (a signed `int`), the Go condition
`bodyLen < 0 || bodyLen+headerLength > maxMessageLength` is the model's `len < headerLength ∨ len > maxMessageLength`
(`Model.readOne`), for every value of the 16-bit length field -/
theorem length_check (len : Nat) :
    let ρ := envOf [("bodyLen", (len : Int) - (Gen.headerLength : Int)), ("0", 0), ("bodyLen+headerLength", (len : Int)),
                    ("maxMessageLength", (Gen.maxMessageLength : Int))]
    BExp.eval ρ (decision "fsm.read" "if" 2) = (decide (len < Gen.headerLength) || decide (len > Gen.maxMessageLength)) := by
  simp only [d_read, envOf_cons, String.reduceEq, ↓reduceIte, eval_or, eval_lt, eval_gt]
  congr 1 <;> (apply decide_eq_decide.mpr; omega)

/-- the marker check: an octet fails it iff it is not 0xFF (`(header.take 16).any (· ≠ 0xFF)` in the model) -/
theorem marker_check (b : UInt8) :
    let ρ := envOf [("header[i]", (b.toNat : Int)), ("0xFF", 255)]
    BExp.eval ρ (decision "fsm.read" "if" 1) = decide (b ≠ 0xFF) := by
  simp only [d_read, envOf_cons, String.reduceEq, ↓reduceIte, eval_ne, int_bne, decide_not]
  congr 1; apply decide_eq_decide.mpr
  rw [← UInt8.toNat_inj]; show _ ↔ b.toNat = 255; omega

/-- a body is read only if there is one: `bodyLen > 0` -/
theorem body_read (len : Nat) (h : Gen.headerLength ≤ len) :
    let ρ := envOf [("bodyLen", (len : Int) - (Gen.headerLength : Int)), ("0", 0)]
    BExp.eval ρ (decision "fsm.read" "if" 3) = decide (0 < len - Gen.headerLength) := by
  simp only [d_read, envOf_cons, String.reduceEq, ↓reduceIte, eval_gt]
  apply decide_eq_decide.mpr; omega

end CoreBGP.Props.DecTieC08
