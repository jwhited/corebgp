import CoreBGP.Props.DecTie
import CoreBGP.Lemmas.PeerStep
/-! Decision ties of C13 (see `Props.DecTie` for the method). -/
namespace CoreBGP.Props.DecTieC13
open CoreBGP CoreBGP.Model CoreBGP.Gen CoreBGP.Lemmas CoreBGP.Lemmas.DecTie CoreBGP.Props.DecTie

/-- the generated table, evaluated (a changed admission condition of `peer.run` / `handleInboundConn` is reported here) -/
private theorem d_admission :
    decision "peer.run" "if" 0 = .atom "p.inHoldDown" ∧
    decision "peer.run" "if" 1 = .or (.cmp "!=" "p.fsms[in]" "nil") (.cmp "==" "p.fsmState[out]" "establishedState") ∧
    decision "Server.handleInboundConn" "if" 0 = .cmp "!=" "err" "nil" ∧
    decision "Server.handleInboundConn" "if" 1 = .not (.atom "exists") ∧
    decision "Server.handleInboundConn" "if" 2 = .atom "p.options.localAddress.IsValid()" ∧
    decision "Server.handleInboundConn" "if" 3 =
      .or (.cmp "!=" "err" "nil") (.cmp "!=" "p.options.localAddress" "laddr") := by decide +kernel


/-- leaves of the two conditions read off a manager state -/
def admissionEnv (s : PState) : Env :=
  envOf (stateConsts ++ [("p.inHoldDown", b2i s.holdDown), ("p.fsms[in]", b2i s.presentI), ("p.fsmState[out]", rankI s.stO)])

/-- Go: `if p.inHoldDown { close } ; if p.fsms[in] != nil || p.fsmState[out] == establishedState { close } else { enableFSM(in, conn) }` -/
def goRefuses (ρ : Env) : Bool :=
  BExp.eval ρ (decision "peer.run" "if" 0) || BExp.eval ρ (decision "peer.run" "if" 1)

private theorem goRefuses_eq (s : PState) :
    goRefuses (admissionEnv s) = (s.holdDown || s.presentI || decide (s.stO = .established)) := by
  simp only [goRefuses, d_admission, admissionEnv, stateConsts, List.cons_append, List.nil_append, envOf_cons,
    String.reduceEq, ↓reduceIte, eval_atom, eval_or, eval_ne, eval_eq, b2i_ne_zero, rankI_beq, Bool.or_assoc]

theorem admission (s : PState) (h : s.pdone = false) :
    ((Label.inConn false, s) ∈ pMain s ↔ goRefuses (admissionEnv s) = true) ∧
    ((Label.inConn true, { s with todo := [.enable .inn true] }) ∈ pMain s ↔ goRefuses (admissionEnv s) = false) := by
  rw [goRefuses_eq]
  constructor <;> constructor
  · intro hm; cases (MainStep.of_mem hm).2 with | refuse hc => exact hc
  · exact fun hc => MainStep.mem h (.refuse hc)
  · intro hm; cases (MainStep.of_mem hm).2 with | accept hc => exact hc
  · exact fun hc => MainStep.mem h (.accept hc)


/-- addresses as integers (injective: `addrI_inj`) -/
def addrI (a : Addr) : Int :=
  (a.id : Int) * 3 + (match a.kind with | .invalid => 0 | .v4 => 1 | .v6 => 2)

theorem addrI_inj (a b : Addr) : addrI a = addrI b ↔ a = b := by
  constructor
  · intro h
    cases a with | mk ka ia => cases b with | mk kb ib =>
    simp only [addrI] at h
    cases ka <;> cases kb <;> simp at h ⊢ <;> omega
  · rintro rfl; rfl

/-- leaves of the conditions of `handleInboundConn` for a connection from `src` to `dst`; `err` is the result of
splitting / parsing the address strings of an accepted TCP connection, which does not fail -/
def inboundEnv (s : Server) (src dst : Addr) : Env :=
  envOf [("nil", 0), ("err", 0), ("exists", b2i (s.lookup src).isSome),
         ("p.options.localAddress.IsValid()", b2i (((s.lookup src).map (·.localAddr.isValid)).getD false)),
         ("p.options.localAddress", ((s.lookup src).map (fun c => addrI c.localAddr)).getD 0), ("laddr", addrI dst)]

/-- Go: `if err != nil {close}; p, exists := s.peers[h]; if !exists {close}; if p.options.localAddress.IsValid()
{ if err != nil || p.options.localAddress != laddr {close} }; p.incomingConnection(conn)` -/
def goHandsOver (ρ : Env) : Bool :=
  let d := fun n => BExp.eval ρ (decision "Server.handleInboundConn" "if" n)
  if d 0 then false
  else if d 1 then false
  else if d 2 then (if d 3 then false else true)
  else true

theorem server_admission (s : Server) (src dst : Addr) :
    (s.admit src dst).isSome = goHandsOver (inboundEnv s src dst) := by
  simp only [goHandsOver, Server.admit, d_admission, inboundEnv, envOf_cons, String.reduceEq, ↓reduceIte, eval_ne,
    eval_not, eval_atom, eval_or, b2i_ne_zero]
  cases h : s.lookup src with
  | none => simp
  | some c =>
    have hne : (addrI c.localAddr != addrI dst) = (c.localAddr != dst) := by
      simp only [bne, Bool.beq_eq_decide_eq, addrI_inj]
    cases hv : c.localAddr.isValid <;> by_cases hd : c.localAddr = dst <;> simp [hne, hv, hd]

end CoreBGP.Props.DecTieC13
