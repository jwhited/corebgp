import CoreBGP.Model.Peer
import CoreBGP.Lemmas.Peer
import CoreBGP.Lemmas.PeerLocal
import CoreBGP.Lemmas.PeerStop
/-!
# C10 (L2 half) — shutdown from any state completes; no deadlock

`peer.stop()` = close `p.closeCh` (label `apiStop`), then wait for `p.doneCh` (label `stopped`).
Proved over all reachable states of the L2 system: once a stop has been requested some
stop-directed step is always enabled (no deadlock), every such step lowers a rank (so the stop
completes within a bounded number of them, for every schedule that keeps taking them — Go's
`select` chooses among ready cases at random, so the always-ready `closeCh` case is taken with
probability 1; real-time promptness is observed by the live engine), and when it has completed
both FSM slots are empty, no connection is held, no dial is outstanding and the plugin history is
balanced. The data-race clause is `CoreBGP.Props.C10Own` (ownership over the extracted access table).
-/
namespace CoreBGP.Props.C10
open CoreBGP CoreBGP.Model CoreBGP.Lemmas
open CoreBGP.Lemmas.PeerStop

/-- the steps that drive a stop forward: the manager taking its `closeCh` case or executing its
pending instruction, and an FSM whose `closeCh` is closed taking that case (after entering
`OnEstablished` if it was about to) -/
def stopDirected (s : PState) : List (Label × PState) :=
  (match s.todo with
   | [] => if s.pclosed && !s.pdone then [(.tau, { s with todo := [.disableLog .out, .disableLog .inn, .finish] })] else []
   | ins :: rest => pInstr s ins rest) ++
  ([Dir.out, Dir.inn].flatMap fun i =>
    let x := s.f i
    if x.closed && x.pc.listensClose then
      ((fOnClose i x) ++ (if x.pc = FPc.run St.established && !x.inEst then [(Label.onEstablished i, { x with inEst := true })] else [])).map
        fun (l, y) => (l, applyCb l (s.setF i y))
    else [])

/-- they are steps of the system -/
theorem stopDirected_sub (s : PState) : ∀ x ∈ stopDirected s, x ∈ next s := by
  intro x hx
  simp only [stopDirected, List.mem_append] at hx
  simp only [next, List.mem_append]
  rcases hx with hx | hx
  · left; left; left; left
    split at hx
    · rename_i ht
      rw [ht]
      split at hx
      · rename_i hc
        simp only [Bool.and_eq_true, Bool.not_eq_eq_eq_not, Bool.not_true] at hc
        cases List.mem_singleton.1 hx
        exact (MainStep.stop hc.1).mem hc.2
      · simp at hx
    · rename_i ins rest ht
      rw [ht]
      exact hx
  · simp only [List.mem_flatMap] at hx
    obtain ⟨i, hi, hx⟩ := hx
    have key : x ∈ fSteps s i := by
      split at hx
      · rename_i hc
        simp only [List.mem_map, List.mem_append] at hx
        obtain ⟨⟨l, y⟩, hy, rfl⟩ := hx
        simp only [fSteps, List.mem_map, List.mem_append]
        refine ⟨(l, y), ?_, rfl⟩
        rcases hy with hy | hy
        · left; rw [if_pos hc]; exact hy
        · right
          split at hy
          · rename_i he
            simp only [Bool.and_eq_true, decide_eq_true_eq, Bool.not_eq_eq_eq_not, Bool.not_true] at he
            rw [he.1]
            simp only [runOutcomes, he.2]
            simpa using hy
          · simp at hy
      · simp at hx
    simp only [List.mem_cons, List.not_mem_nil, or_false] at hi
    rcases hi with rfl | rfl
    · left; left; left; right; exact key
    · left; left; right; exact key

/-- no deadlock: in every reachable state in which a stop has been requested and not completed, a
stop-directed step is enabled -/
theorem progress (d p : Bool) (s : PState) (h : PReach d p s) (hc : s.pclosed = true) (hd : s.pdone = false) :
    stopDirected s ≠ [] := by
  have hi := sinv_reachable h
  intro hnil
  simp only [stopDirected, List.append_eq_nil_iff] at hnil
  obtain ⟨hA, hB⟩ := hnil
  cases ht : s.todo with
  | nil =>
    rw [ht] at hA
    simp [hc, hd] at hA
  | cons ins rest =>
    rw [ht] at hA
    simp only at hA
    -- the only instruction that can block is the join on a closed, unfinished FSM, and that FSM has a `closeCh` step
    by_cases hdis : ∃ i, ins = .disable i ∧ (s.f i).closed = true ∧ (s.f i).pc ≠ .done
    · obtain ⟨i, rfl, hcl, hnd⟩ := hdis
      have hp : s.present i = true := (hi.t i).disPres (by rw [ht]; exact rfl)
      obtain ⟨hl, hne⟩ := fOnClose_progress i (s.f i) (((pinv_reachable h).ok i).pres hp) hnd (hi.x i).noRunDis
      simp only [List.flatMap_eq_nil_iff] at hB
      have := hB i (by cases i <;> simp)
      rw [if_pos (by simp [hcl, hl])] at this
      exact hne (List.map_eq_nil_iff.1 this)
    · refine pInstr_progress s ins rest hc (fun i e => ?_) hA
      cases hcl : (s.f i).closed
      · exact Or.inl rfl
      · right
        refine Classical.byContradiction fun hnd => hdis ⟨i, e, hcl, hnd⟩

/-- completion: when the stop has returned both FSM slots are empty (every FSM goroutine finished and
was joined), no connection is held, no dial is outstanding, nothing is pending in the manager, and
every OnEstablished has been matched by its OnClose -/
theorem complete (d p : Bool) (s : PState) (h : PReach d p s) (hd : s.pdone = true) :
    s.fo = {} ∧ s.fi = {} ∧ s.presentO = false ∧ s.presentI = false ∧ s.todo = [] ∧ s.hist = some .idle := by
  have hi := sinv_reachable h
  have hq := pinv_reachable h
  obtain ⟨ht, hp⟩ := hq.done hd
  have ho : s.fo = {} := (hi.x .out).abs (hp .out)
  have hn : s.fi = {} := (hi.x .inn).abs (hp .inn)
  refine ⟨ho, hn, hp .out, hp .inn, ht, ?_⟩
  have := hq.hist_ok
  rwa [show s.f .out = {} from ho, show s.f .inn = {} from hn] at this

/-- a stopped FSM holds nothing: whenever an FSM has reached `done` it has no connection and no
outstanding dial (in particular a dial that succeeded while the stop was in flight was closed) -/
theorem done_holds_nothing (d p : Bool) (s : PState) (h : PReach d p s) (i : Dir) (hp : (s.f i).pc = .done) :
    (s.f i).conn = false ∧ (s.f i).dialing = false ∧ (s.f i).inEst = false :=
  ⟨(((sinv_reachable h).x i).doneH hp).1, (((sinv_reachable h).x i).doneH hp).2,
    ((pinv_reachable h).ok i).inEst_false_of_pc (by rw [hp]; nofun)⟩

/-- after the stop has returned nothing but environment noise can happen: no step of the peer's
goroutines is enabled any more -/
theorem quiescent (d p : Bool) (s : PState) (h : PReach d p s) (hd : s.pdone = true) :
    ∀ l s', (l, s') ∈ next s → (∃ i m, l = .rsend i m) ∧ s' = s := by
  obtain ⟨ho, hn, -, -, ht, -⟩ := complete d p s h hd
  have hf : ∀ i, s.f i = {} := fun | .out => ho | .inn => hn
  intro l s' hm
  cases PStep.of_mem hm with
  | main _ hd' => cases hd.symm.trans hd'
  | instr ht' => cases ht.symm.trans ht'
  | fclose i _ hl => rw [hf] at hl; cases hl
  | frun i st hpc => rw [hf] at hpc; cases hpc
  | apiStop hc => cases ((sinv_reachable h).pd hd).symm.trans hc
  | rsend i m hc => rw [hf] at hc; cases hc
  | lost i m => exact ⟨⟨i, m, rfl⟩, rfl⟩

end CoreBGP.Props.C10
