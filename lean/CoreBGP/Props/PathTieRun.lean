import CoreBGP.Props.PathTie
import CoreBGP.Props.DecTie
/-! Path tie for `fsm.run` (the loop that asks the peer manager for every transition and runs the state functions), on the
regenerated control paths and decisions. Listed under C07 and C10: a connection that is stopped — by Close / DeletePeer or as
the loser of a collision — while its FSM is asking for a transition still gets its Cease, and the FSM always leaves through
`cleanup` before `doneCh` is closed. -/
namespace CoreBGP.Props.PathTieRun
open CoreBGP CoreBGP.Model CoreBGP.Gen CoreBGP.Lemmas.DecTie CoreBGP.Props.DecTie CoreBGP.Props.PathTie

def ceaseCond : String := "t.to!=toBefore&&t.to==disabledState&&f.conn!=nil&&t.from>activeState"
def reqSend : String × Bool := ("select send f.peer.getFSMTransitionCh(f)", true)
def stopCase : String × Bool := ("select recv f.closeCh", true)

/-- the path takes a `closeCh` case of the transition request (before the manager took the request, or while waiting for its
answer) -/
def stoppedAtRequest (p : CodePath) : Bool :=
  p.guards.head? == some stopCase || (p.guards.head? == some reqSend && p.guards[1]? == some stopCase)

/-- a stop at the transition request always reaches the Cease decision (no way round it), and where the decision holds the
Cease is the next thing that happens -/
theorem stop_at_request_reaches_cease_decision :
    (∀ p ∈ pathsOf "run", stoppedAtRequest p = true →
      (p.guards.any fun g => g.1 == ceaseCond) = true ∧
      (p.guards.contains (ceaseCond, true) = true → p.calls.take 3 = ["verifPoint", "newStateTransition", "f.sendNotification"])) ∧
    (pathsOf "run").any (fun p => stoppedAtRequest p && p.guards.contains (ceaseCond, true) && p.guards.head? == some stopCase) = true ∧
    (pathsOf "run").any (fun p => stoppedAtRequest p && p.guards.contains (ceaseCond, true) && p.guards.head? == some reqSend) = true ∧
    (∀ p ∈ pathsOf "run", p.guards.contains (ceaseCond, false) = true → p.calls.contains "f.sendNotification" = false) := by
  decide +kernel

/-- the FSM goroutine ends only through the `disabled` case, and then runs `cleanup` (dial cancelled and joined, connection and
reader torn down) before it closes `doneCh` (what `stop` waits for) -/
theorem run_returns_through_cleanup :
    (∀ p ∈ pathsOf "run", p.exit = "return" →
      p.guards.contains ("case t.to==disabledState", true) = true ∧
      p.calls.drop (p.calls.length - 2) = ["deferred f.cleanup()", "deferred close(f.doneCh)"]) ∧
    (pathsOf "cleanup").all (fun p => p.calls.getLast? == some "f.cleanupConnAndReader") = true ∧
    (∀ p ∈ pathsOf "cleanup", p.guards.contains ("f.cancelDialFn!=nil", true) = true →
      p.calls = ["f.cancelDialFn", "recv f.dialResultCh", "f.closeDialedConn", "f.cleanupConnAndReader"]) := by
  decide +kernel

/-- an error is offered to the manager only next to the `closeCh` alternative (the FSM can always be stopped while it offers one) -/
theorem error_handoff_offers_stop :
    ∀ p ∈ pathsOf "run", p.guards.getLast? = some ("select send f.peer.getFSMErrorCh(f)", true) →
      (pathsOf "run").any (fun q => q.guards.dropLast == p.guards.dropLast && q.guards.getLast? == some stopCase) = true := by
  decide +kernel

private theorem d_cease : decision "fsm.run" "if" 1 =
    .and (.and (.and (.cmp "!=" "t.to" "toBefore") (.cmp "==" "t.to" "disabledState")) (.cmp "!=" "f.conn" "nil"))
      (.cmp ">" "t.from" "activeState") := by decide +kernel

/-- the Cease decision itself, as translated from the source: it holds exactly when the FSM was disabled from outside (the
target changed, to `disabled`) while it holds a connection and comes from OpenSent, OpenConfirm or Established -/
theorem cease_decision (frm to before : St) (conn : Bool) :
    let ρ := envOf [("t.to", (to.rank.toNat : Int)), ("toBefore", (before.rank.toNat : Int)),
                    ("disabledState", (Gen.disabledState.toNat : Int)), ("f.conn", b2i conn), ("nil", 0),
                    ("t.from", (frm.rank.toNat : Int)), ("activeState", (Gen.activeState.toNat : Int))]
    BExp.eval ρ (decision "fsm.run" "if" 1) =
      (decide (to ≠ before) && decide (to = .disabled) && conn &&
        decide (frm = .openSent ∨ frm = .openConfirm ∨ frm = .established)) := by
  simp only [d_cease, envOf_cons, String.reduceEq, ↓reduceIte, eval_and, eval_ne, eval_eq, eval_gt]
  change (rankI to != rankI before && rankI to == rankI .disabled && b2i conn != 0 &&
    decide (rankI .active < rankI frm)) = _
  rw [bne, rankI_beq, rankI_beq, b2i_ne_zero, decide_not]
  cases frm <;> rfl

end CoreBGP.Props.PathTieRun
