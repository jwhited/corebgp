import CoreBGP.Model.Reader
import CoreBGP.Spec.Wire
import CoreBGP.Lemmas.Reader
/-!
# C08 — receive-side header validation and stream framing

The reader model `readAll` is a function of the byte stream alone (segmentation-free by
construction; that the Go reader is too is a correspondence obligation exercised with random
segmentations). The FSM half — a reader error carrying a NOTIFICATION leads to `[send it, close]`
in each state — is in the L1 session model.
-/
namespace CoreBGP.Props.C08
open CoreBGP CoreBGP.Model

/-- the body of message type `t` decodes (OPEN and NOTIFICATION have a body syntax; UPDATE and
KEEPALIVE bodies are opaque to the reader) -/
def decodes (t : UInt8) (body : Bytes) : Prop :=
  (t = 1 → ∃ o, decodeOpen body = .ok o) ∧ (t = 3 → 2 ≤ body.length)

/-- header classification, marker first: a header whose marker is not sixteen 0xFF octets yields
(1,1) whatever follows -/
theorem classify_marker (h rest : Bytes) (hl : h.length = 19) (hm : h.take 16 ≠ Spec.marker) :
    ∃ d, readOne (h ++ rest) = .error (.notif ⟨1, 1, d⟩ true) := by
  refine ⟨[], ?_⟩
  rw [Lemmas.readOne_header h rest hl, if_pos hm]

/-- … otherwise a length below 19 or above 4096 yields (1,2) -/
theorem classify_length (h rest : Bytes) (hl : h.length = 19) (hm : h.take 16 = Spec.marker)
    (hlen : Spec.n16 (h.getD 16 0) (h.getD 17 0) < 19 ∨ Spec.n16 (h.getD 16 0) (h.getD 17 0) > 4096) :
    ∃ d, readOne (h ++ rest) = .error (.notif ⟨1, 2, d⟩ true) := by
  refine ⟨[], ?_⟩
  rw [Lemmas.readOne_header h rest hl, if_neg (show ¬ (h.take 16 ≠ Spec.marker) from fun hne => hne hm), if_pos hlen]

/-- … otherwise, once the whole message has arrived, an unknown type yields (1,3) carrying the
offending type octet as data -/
theorem classify_type (t : UInt8) (body rest : Bytes) (hb : body.length ≤ 4077) (ht : Spec.knownType t = false) :
    readOne (Spec.frame t body ++ rest) = .error (.notif ⟨1, 3, [t]⟩ true) := by
  rw [Lemmas.readOne_frame t body rest hb, Lemmas.messageFromBytes_unknown t body ht]

/-- … otherwise the message is delimited by the length field alone: exactly `body` is handed to
`messageFromBytes` and exactly `rest` remains -/
theorem delimit (t : UInt8) (body rest : Bytes) (hb : body.length ≤ 4077) (ht : Spec.knownType t = true) :
    readOne (Spec.frame t body ++ rest) =
      (match messageFromBytes body t with
       | .ok m => .ok (m, rest)
       | .error e => .error e) := by
  -- holds for every type octet; `ht` only selects the case the property talks about
  have _ := ht
  exact Lemmas.readOne_frame t body rest hb

/-- every well-formed message that precedes a faulty one is processed: for a stream made of whole
well-formed messages followed by anything, the reader yields exactly those messages, in order,
and then behaves as on the remainder alone (in particular nothing after a fault is
interpreted, and the result does not depend on how the stream is cut into reads) -/
theorem prefix_processed (ms : List (UInt8 × Bytes)) (tail : Bytes)
    (hms : ∀ m ∈ ms, Spec.knownType m.1 = true ∧ m.2.length ≤ 4077 ∧ decodes m.1 m.2) :
    ∃ rs : List RMsg, rs.length = ms.length ∧
      (∀ i (hi : i < ms.length), ∀ r, rs[i]? = some r → r.type = (ms[i]'hi).1 ∧
         (∀ b, r = .update b → b = (ms[i]'hi).2)) ∧
      readAll ((ms.map fun m => Spec.frame m.1 m.2).flatten ++ tail) = (rs ++ (readAll tail).1, (readAll tail).2) := by
  -- the `.keepalive` default is never met (`hf`)
  let f (m : UInt8 × Bytes) : RMsg := match messageFromBytes m.2 m.1 with | .ok r => r | .error _ => .keepalive
  have hf : ∀ m ∈ ms, messageFromBytes m.2 m.1 = .ok (f m) ∧ (f m).type = m.1 ∧ ∀ b, f m = .update b → b = m.2 := by
    intro m hm
    obtain ⟨hk, _, h1, h3⟩ := hms m hm
    obtain ⟨r, hr, hp⟩ := Lemmas.messageFromBytes_known m.1 m.2 hk h1 h3
    have : f m = r := by simp only [f, hr]
    rw [this]; exact ⟨hr, hp⟩
  refine ⟨ms.map f, List.length_map .., fun i hi r hr => ?_,
    Lemmas.readAll_frames f ms tail fun m hm => ⟨(hms m hm).2.1, (hf m hm).1⟩⟩
  rw [List.getElem?_map, List.getElem?_eq_getElem hi] at hr
  cases hr
  exact (hf _ (List.getElem_mem hi)).2

/-- a stream that ends inside a header or body ends the reader with a plain I/O error, never a
NOTIFICATION -/
theorem truncated_no_notification (s : Bytes) (h : s.length < 19) : readAll s = ([], .eof) :=
  Lemmas.truncated_no_notification s h

/-- the reader never panics, on streams of every length -/
theorem reader_no_panic (s : Bytes) : (readAll s).2 ≠ .panic :=
  Lemmas.reader_no_panic s

/-- a NOTIFICATION corebgp sends reaches the wire with exactly the code, subcode and data bytes
it was constructed with (data of every length that fits, including exactly one byte) -/
theorem notif_wire (n : Notif) (h : n.data.length ≤ 4075) :
    encodeNotif n = Spec.frame 3 ([n.code, n.sub] ++ n.data) :=
  Lemmas.notif_wire n h

end CoreBGP.Props.C08
