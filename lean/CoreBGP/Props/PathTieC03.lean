import CoreBGP.Props.PathTie
/-! Path tie of C03 (see `Props.PathTie` for the method): the statements about the regenerated control paths of
`fsm.go` in the scope `c03`. -/
namespace CoreBGP.Props.PathTieC03
open CoreBGP CoreBGP.Model CoreBGP.Gen CoreBGP.Props.PathTie

theorem scope_ok : scopeOK .c03 = true := by decide +kernel

/-- the L1 model does what the code's paths do, for every input whose class is in this scope -/
theorem react_follows_code (cfg : SessCfg) (ph : Phase) (inp : Input) (ret : Option Notif) (c : ICls)
    (hph : ph ∈ phases) (hc : clsOf cfg ph inp ret = some c) (hs : scopeOfCls ph c = .c03) :
    selected (fnName ph) (envOfCls c) ≠ [] ∧
    ∀ p ∈ selected (fnName ph) (envOfCls c),
      pathVis (envOfCls c) p = actsVis (react cfg ph inp ret).2 ∧
      pathExit (wrappedOf c) p = actsExit (react cfg ph inp ret).2 :=
  follows_of_shapeOK .c03 (scopeOK_iff.mp scope_ok).1 cfg ph inp ret c hph hc hs

/-- every path of the code in this scope is a path of the model -/
theorem every_path_modelled : scopeComplete .c03 = true := (scopeOK_iff.mp scope_ok).2.1

/-- nothing outside the known vocabulary is called on a path of this scope -/
theorem calls_known : scopeCallsKnown .c03 = true := (scopeOK_iff.mp scope_ok).2.2

example : (classesOf .c03).length > 0 := by decide

/-- without a handler an UPDATE has no visible effect and the session goes on -/
theorem no_handler_paths :
    ∀ p ∈ pathsOf "established", noHandler p = true →
      pathVis (fun _ => none) p = [] ∧ pathExit .io p = .loop ∧ p.guards.contains ("type updateMessage", true) = true := by
  decide +kernel

end CoreBGP.Props.PathTieC03
