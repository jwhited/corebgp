import CoreBGP.Props.PathTie
/-! Path tie of C11 (see `Props.PathTie` for the method): `Model.Reconnect` (the timed model of the outbound FSM before
OpenSent) against the regenerated control paths of `idle`, `connect`, `active` and the Active exit of `openSent`. -/
namespace CoreBGP.Props.PathTieC11
open CoreBGP CoreBGP.Model CoreBGP.Gen CoreBGP.Props.PathTie

/-- the classes of an event of the model: the Go function that runs and the guards the event fixes. A successful dial has
two: its result is taken by the `select`, or by the connect-retry case that had just cancelled it -/
def rclsOf : REv → List RCls
  | .idleFire => [⟨"idle", [("select recv f.idleHoldTimer.C", true)]⟩]
  | .dialFailed => [⟨"connect", [("select recv f.dialResultCh", true), ("dr.err!=nil", true)]⟩]
  | .dialOK => [⟨"connect", [("select recv f.dialResultCh", true), ("dr.err!=nil", false)]⟩,
                ⟨"connect", [("select recv f.connectRetryTimer.C", true), ("dr.err!=nil", false)]⟩]
  | .crFireRedial => [⟨"connect", [("select recv f.connectRetryTimer.C", true), ("dr.err!=nil", true)]⟩]
  | .crFireActive => [⟨"active", [("f.conn!=nil", false), ("select recv f.connectRetryTimer.C", true)]⟩]
  | .lostToActive => [⟨"openSent", [("select recv f.readerErrCh", true), ("errors.As(err,&nerr)", false)]⟩]
  | _ => []

/-- what an event does, as effects in order, and where it leads -/
def evREffs : REv → RCls → List REff × RSt
  | .idleFire, _ => ([.armCR, .dial, .armIdle], .connect)
  | .dialFailed, _ => ([.recvDial, .stopCR, .cancelDial], .idle)
  | .dialOK, c =>
    if c.guards.contains ("select recv f.dialResultCh", true) then ([.recvDial, .setConn, .stopCR], .connected)
    else ([.stopCR, .cancelDial, .recvDial, .setConn], .connected)
  | .crFireRedial, _ => ([.stopCR, .cancelDial, .recvDial, .armCR, .dial], .connect)
  | .crFireActive, _ => ([.stopCR, .armCR, .dial], .connect)
  | .lostToActive, _ => ([.armCR], .active)
  | _, _ => ([], .idle)

def curSt : REv → RSt
  | .idleFire => .idle
  | .crFireActive => .active
  | .lostToActive => .connected
  | _ => .connect

def events : List REv := [.idleFire, .dialFailed, .dialOK, .crFireRedial, .crFireActive, .lostToActive]

/-- the code side: for every event and each of its classes some path is selected, and every selected path has the
effects and the destination of the table -/
theorem code_reconnect_effects :
    ∀ ev ∈ events, ∀ c ∈ rclsOf ev,
      (selected c.fn (envOfRCls c)).isEmpty = false ∧
      (selected c.fn (envOfRCls c)).all (fun p => pathREffs p == (evREffs ev c).1 && pathRSt (curSt ev) p == some (evREffs ev c).2) = true := by
  decide +kernel

/-- the model side: a step of `rstep` changes the two timers, the outstanding dial and the state as the effects of (each
class of) its event do -/
theorem rstep_effects (s s' : RSess) (ev : REv) (h : rstep s ev = some s') (hev : ev ∈ events) :
    ∀ c ∈ rclsOf ev,
      (evREffs ev c).1.foldl (applyREff s.now s.cr s.ih) (riOf s) = riOf s' ∧ (evREffs ev c).2 = s'.st := by
  intro c hc
  cases ev with
  | tick dt => simp [events] at hev
  | lostToIdle => simp [events] at hev
  | idleFire =>
    simp [rclsOf] at hc; subst hc
    simp [rstep] at h; obtain ⟨_, rfl⟩ := h
    simp [evREffs, applyREff, riOf]
  | dialFailed =>
    simp [rclsOf] at hc; subst hc
    simp [rstep] at h; obtain ⟨_, rfl⟩ := h
    simp [evREffs, applyREff, riOf]
  | dialOK =>
    simp [rclsOf] at hc
    simp [rstep] at h; obtain ⟨_, rfl⟩ := h
    rcases hc with rfl | rfl <;> simp [evREffs, applyREff, riOf]
  | crFireRedial =>
    simp [rclsOf] at hc; subst hc
    simp [rstep] at h; obtain ⟨⟨hst, _⟩, rfl⟩ := h
    simp [evREffs, applyREff, riOf, hst]
  | crFireActive =>
    simp [rclsOf] at hc; subst hc
    simp [rstep] at h; obtain ⟨_, rfl⟩ := h
    simp [evREffs, applyREff, riOf]
  | lostToActive =>
    simp [rclsOf] at hc; subst hc
    simp [rstep] at h; obtain ⟨_, rfl⟩ := h
    simp [evREffs, applyREff, riOf]

/-- **`Model.Reconnect` arms the timers and dials where the code does**: for every step of the timed model of the
outbound FSM (idle-hold expiry, dial result, connect-retry expiry in Connect and in Active, loss of the connection in
OpenSent), every control path of the Go state function selected for the event, read as timer / dial operations (taking
a `select` case included), turns timers and outstanding dial of the state before the step into those of the state
after it, and leaves for the state the model is in afterwards -/
theorem rstep_follows_code (s s' : RSess) (ev : REv) (h : rstep s ev = some s') (hev : ev ∈ events) :
    ∀ c ∈ rclsOf ev, selected c.fn (envOfRCls c) ≠ [] ∧
      ∀ p ∈ selected c.fn (envOfRCls c),
        (pathREffs p).foldl (applyREff s.now s.cr s.ih) (riOf s) = riOf s' ∧ pathRSt (curSt ev) p = some s'.st := by
  intro c hc
  obtain ⟨heff, hst⟩ := rstep_effects s s' ev h hev c hc
  obtain ⟨hne, hall⟩ := selected_all (code_reconnect_effects ev hev c hc)
  refine ⟨hne, fun p hp => ?_⟩
  have := hall p hp
  simp only [Bool.and_eq_true, beq_iff_eq] at this
  rw [this.1, this.2, hst]; exact ⟨heff, rfl⟩

/-- every path of `idle`, `connect`, `active` is a path of the model, a stop (`closeCh`: `PathTieC10`), or the start of
an FSM that was created for an accepted connection (`f.conn != nil` in `active`) -/
theorem every_early_path_modelled :
    ∀ fn ∈ ["idle", "connect", "active"], ∀ p ∈ pathsOf fn,
      p.guards.contains ("select recv f.closeCh", true) = true ∨ p.guards.contains ("f.conn!=nil", true) = true ∨
      (events.any fun ev => (rclsOf ev).any fun c => c.fn == fn && pathSat (envOfRCls c) p) = true := by
  decide +kernel

/-- a connection that came up but on which the OPEN could not be built or written is closed and the FSM goes to Idle — never
to Active with the dead connection still in hand (the model: `dialOK` followed by `lostToIdle`; the next attempt starts after
the idle-hold time) -/
theorem open_failure_to_idle :
    (∀ p ∈ pathsOf "sendOpenAndSetHoldTimer", p.guards.any (·.2) = true →
      p.ret = ["idleState"] ∧ p.calls.getLast? = some "f.conn.Close") ∧
    (∀ p ∈ pathsOf "sendOpenAndSetHoldTimer", p.guards.all (·.2 == false) = true → p.ret = ["openSentState"]) ∧
    (∀ s : RSess, s.st = .connected → (rstep s .lostToIdle).map (·.st) = some .idle) := by
  refine ⟨by decide, by decide, ?_⟩
  intro s h; simp [rstep, h]

end CoreBGP.Props.PathTieC11
