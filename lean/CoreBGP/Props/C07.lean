import CoreBGP.Model.Peer
import CoreBGP.Lemmas.PeerStep
/-!
# C07 — connection collision is resolved per RFC 4271 §6.8, in every arrival order

`s.dominant` abstracts the comparison `localID > remoteID ∨ (localID = remoteID ∧ localAS > remoteAS)`
(`peer.go:154`); `dominant_iff` ties it to identifiers and AS numbers. The FSM whose connection was
*initiated by the dominant speaker* is `out` if the local speaker dominates, `inn` otherwise.
-/
namespace CoreBGP.Props.C07
open CoreBGP CoreBGP.Model CoreBGP.Lemmas
open CoreBGP.Lemmas.PeerLocal

/-- the dominance computation of `handleStateTransition` -/
def dominantOf (localID remoteID localAS remoteAS : UInt32) : Bool :=
  localID > remoteID || (localID == remoteID && localAS > remoteAS)

/-- … is "numerically higher BGP Identifier, ties broken by the higher AS number" -/
theorem dominant_iff (localID remoteID localAS remoteAS : UInt32) :
    dominantOf localID remoteID localAS remoteAS = true ↔
      (localID.toNat > remoteID.toNat ∨ (localID.toNat = remoteID.toNat ∧ localAS.toNat > remoteAS.toNat)) := by
  unfold dominantOf
  simp only [Bool.or_eq_true, Bool.and_eq_true, decide_eq_true_eq, beq_iff_eq, gt_iff_lt,
    UInt32.lt_iff_toNat_lt, ← UInt32.toNat_inj]

/-- the FSM whose connection was initiated by the dominant speaker -/
def initiatedByDominant (s : PState) : Dir := if s.dominant then .out else .inn

/-- the table: when FSM `i` asks for OpenConfirm while the other is recorded OpenConfirm, then — whichever
of the two asked last — the requester continues (via the kill-or-transition `select`) iff its
connection was initiated by the dominant speaker; otherwise the requester itself is stopped -/
theorem collision_table (s : PState) (i : Dir) (frm : St)
    (hfrm : ¬ (i = .inn ∧ St.openConfirm.rank < frm.rank)) (ho : s.st i.other = .openConfirm) :
    expandHandle s i ⟨frm, .openConfirm⟩ =
      if i = initiatedByDominant s then [.collSel i ⟨frm, .openConfirm⟩] else [.disableLog i] := by
  have h1 : ¬ ((⟨frm, .openConfirm⟩ : Trans).to = .established) := by simp
  unfold expandHandle
  rw [if_neg h1, if_neg hfrm, if_pos rfl, ho]
  unfold initiatedByDominant
  cases i <;> cases hd : s.dominant <;> simp

/-- an OpenConfirm request while the other FSM is Established stops the requester -/
theorem established_wins (s : PState) (i : Dir) (frm : St)
    (hfrm : ¬ (i = .inn ∧ St.openConfirm.rank < frm.rank)) (ho : s.st i.other = .established) :
    expandHandle s i ⟨frm, .openConfirm⟩ = [.disableLog i] := by
  have h1 : ¬ ((⟨frm, .openConfirm⟩ : Trans).to = .established) := by simp
  unfold expandHandle
  rw [if_neg h1, if_neg hfrm, if_pos rfl, ho]

/-- approval of Established is always preceded (adjacent instruction) by the complete stop of the
other FSM -/
theorem establish_stops_other (s : PState) (i : Dir) (frm : St) :
    expandHandle s i ⟨frm, .established⟩ = [.disableLog i.other, .sendT i ⟨frm, .established⟩] := by
  unfold expandHandle
  rw [if_pos rfl]

/-- whichever way the kill-vs-own-transition `select` resolves, exactly one of the two continues:
either the other FSM is stopped and the requester gets its transition, or the other FSM had already
asked for Established and the requester is stopped instead, or the other FSM went down by itself
and the requester continues (or the peer is closing) -/
theorem select_outcomes (s : PState) (i : Dir) (t : Trans) (rest : List Instr) :
    ∀ l s', (l, s') ∈ pInstr s (.collSel i t) rest →
      s'.todo = rest ∨
      s'.todo = .disableLog i.other :: .sendT i t :: rest ∨
      (∃ ot, ot.to = .established ∧ s'.todo = .disableLog i :: .handle i.other ot :: rest) ∨
      (∃ ot, ot.to ≠ .established ∧ s'.todo = .sendT i t :: .handle i.other ot :: rest) := by
  intro l s' h
  cases InstrStep.of_mem h with
  | collSkip => exact .inl rfl
  | kill => exact .inr (.inl (setF_todo ..))
  | collRecv _ _ ot =>
    rw [setF_todo]
    by_cases hot : ot.to = .established
    · exact .inr (.inr (.inl ⟨ot, hot, by simp [hot]⟩))
    · exact .inr (.inr (.inr ⟨ot, hot, by simp [hot]⟩))

/-- the survivor's connection is not touched by the collision step: only the other FSM's component
(and the manager's) change -/
theorem survivor_untouched (s : PState) (i : Dir) (t : Trans) (rest : List Instr) :
    ∀ l s', (l, s') ∈ pInstr s (.collSel i t) rest → s'.f i = s.f i := by
  intro l s' h
  cases InstrStep.of_mem h <;> simp

example : dominantOf 0x0a000064 0x0a0000c8 65001 65002 = false := by decide

end CoreBGP.Props.C07
