import CoreBGP.Model.Peer
import CoreBGP.Lemmas.Peer
import CoreBGP.Lemmas.PeerLocal
/-!
# C11 (L2 half) — reconnection: a passive peer never dials; an ended inbound session re-enables dialling
and admission. (Retry pacing and the time bound are real-time statements: the idle-hold timer is
re-armed at every exit from Idle, `fsm.go:283`; observed by the live engine's pacing monitor.)
-/
namespace CoreBGP.Props.C11
open CoreBGP CoreBGP.Model CoreBGP.Lemmas

/-- a passive peer has no outbound FSM in any reachable state, hence never dials -/
theorem passive_never_dials (d : Bool) (s : PState) (h : PReach d true s) :
    s.presentO = false ∧ s.fo.pc = .absent ∧ ∀ l s', (l, s') ∈ next s → l ≠ .dial := by
  have hi := pinv_reachable h
  have hpo := hi.pas_out hi.pas
  have ho := ((hi.ok .out).empty hpo).1
  refine ⟨hpo, ho, ?_⟩
  rintro l s' hm rfl
  obtain ⟨i, st, hpc, hd⟩ := (PStep.of_mem hm).of_fsmOnly rfl
  cases i
  · cases ho.symm.trans hpc
  · have := hi.inn
    rw [hpc] at this
    rcases hd rfl with h | rfl | rfl
    · cases h
    · exact this.1 rfl
    · exact this.2 rfl

/-- when an inbound FSM goes down (any transition to a lower state) the manager stops it and makes
sure the outbound FSM exists again -/
theorem inbound_down_reenables_out (s : PState) (t : Trans) (ht : t.to.rank < t.frm.rank) (hne : t.to ≠ .established) :
    expandHandle s .inn t = [.disableLog .inn, .enable .out false] := by
  unfold expandHandle
  rw [if_neg hne, if_pos ⟨rfl, ht⟩]

/-- … and a new outbound FSM starts in Idle with a fresh (immediately due) idle-hold timer: its first
request is `disabled → idle` -/
theorem enable_out_starts_idle (s : PState) (rest : List Instr) (hp : s.passive = false) (ha : s.presentO = false) :
    pInstr s (.enable .out false) rest =
      [(.tau, (({ s with todo := rest }.setPresent .out true).setSt .out .disabled).setF .out
          { pc := .req ⟨.disabled, .idle⟩, conn := false })] := by
  have hq : s.present .out = false := ha
  simp [pInstr, hq, hp]

/-- once the inbound slot is empty, the peer is not held down and the outbound FSM is not Established,
the next inbound connection is admitted -/
theorem next_inbound_admitted (s : PState) (h1 : s.holdDown = false) (h2 : s.presentI = false)
    (h3 : s.stO ≠ .established) (h4 : s.pdone = false) (h5 : s.todo = []) :
    (Label.inConn true, { s with todo := [.enable .inn true] }) ∈ next s := by
  simp only [next, h5, List.mem_append]
  exact .inl (.inl (.inl (.inl ((MainStep.accept (by simp [h1, h2, h3])).mem h4))))

end CoreBGP.Props.C11
