import CoreBGP.Props.DecTie
/-! Decision ties of C12 (see `Props.DecTie` for the method). -/
namespace CoreBGP.Props.DecTieC12
open CoreBGP CoreBGP.Model CoreBGP.Gen CoreBGP.Lemmas.DecTie CoreBGP.Props.DecTie

/-- the generated table, evaluated (a changed condition of `handleError`, `dampPeer`, `updateStartupDelay` is reported here) -/
private theorem d_damping :
    decision "peer.handleError" "if" 0 = .atom "errors.As(err,&nerr)" ∧
    decision "notificationError.dampPeer" "return" 0 = .cmp "!=" "n.notification.Code" "NOTIF_CODE_CEASE" ∧
    decision "peer.updateStartupDelay" "if" 0 =
      .and (.cmp "!=" "p.lastProtoError" "nil") (.cmp ">=" "time.Since(*p.lastProtoError)" "errorAmnesiaTime") ∧
    decision "peer.updateStartupDelay" "if" 1 = .cmp ">" "p.startupDelay" "0" := by decide +kernel


/-- `handleError`: `if errors.As(err, &nerr) { if nerr.dampPeer() {…} }` with `dampPeer` = `Code != NOTIF_CODE_CEASE` -/
theorem damping (e : FsmErr) :
    let isNotif := match e with | .notif _ _ => true | .other => false
    let code : Int := match e with | .notif c _ => (c.toNat : Int) | .other => 0
    let ρ := envOf [("errors.As(err,&nerr)", b2i isNotif), ("n.notification.Code", code),
                    ("NOTIF_CODE_CEASE", (Gen.NOTIF_CODE_CEASE.toNat : Int))]
    (BExp.eval ρ (decision "peer.handleError" "if" 0) && BExp.eval ρ (decision "notificationError.dampPeer" "return" 0))
      = errDamps e := by
  intro isNotif code ρ
  simp only [ρ, d_damping, envOf_cons, String.reduceEq, ↓reduceIte, eval_atom, eval_ne, b2i_ne_zero]
  cases e with
  | other => rfl
  | notif c o =>
    simp only [isNotif, code, errDamps, dampPeer, natCast_bne, Bool.true_and]
    simp [← UInt8.toNat_inj]

/-- `updateStartupDelay`: the two conditions in the control structure of the Go function -/
def goStartupDelay (delay : Nat) (gap : Option Nat) : Nat :=
  let ρ₀ := envOf [("nil", 0), ("p.lastProtoError", b2i gap.isSome), ("time.Since(*p.lastProtoError)", ((gap.getD 0 : Nat) : Int)),
                   ("errorAmnesiaTime", (Gen.errorAmnesiaTime : Int))]
  let delay := if BExp.eval ρ₀ (decision "peer.updateStartupDelay" "if" 0) then 0 else delay
  let ρ₁ := envOf [("0", 0), ("p.startupDelay", (delay : Int))]
  if BExp.eval ρ₁ (decision "peer.updateStartupDelay" "if" 1) then min (2 * delay) Gen.errorDelayMaxTime else Gen.errorDelayMinTime

theorem startup_delay (delay : Nat) (gap : Option Nat) :
    Model.updateStartupDelay delay gap = goStartupDelay delay gap := by
  simp only [goStartupDelay, d_damping, envOf_cons, String.reduceEq, ↓reduceIte, eval_and, eval_ne, eval_ge, eval_gt,
    b2i_ne_zero, updateStartupDelay]
  cases gap with
  | none => simp
  | some g => simp

end CoreBGP.Props.DecTieC12
