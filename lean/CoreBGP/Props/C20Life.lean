import CoreBGP.Model.Lifecycle
import CoreBGP.Gen.Selects
import CoreBGP.Lemmas.Assoc
/-!
# C20 / C10 — the server's life cycle under concurrent API use, for every interleaving

Over `LReach` (any number of `AddPeer`, `DeletePeer`, `Close` calls and one `Serve`, interleaved arbitrarily,
including the windows between `Serve`'s and `Close`'s steps).
-/
namespace CoreBGP.Props.C20Life
open CoreBGP.Model.Lifecycle CoreBGP.Lemmas.Assoc

/-- the invariant: a peer is running iff it is registered with a serving server; `serving` is true exactly between
`Serve`'s two critical sections; `doneServingCh` is closed exactly once the tear-down has run -/
def Inv (s : LState) : Prop :=
  (∀ p ∈ s.peers, p.2 = s.serving) ∧
  (s.serving = true ↔ (s.serve = .blocked ∨ s.serve = .closing)) ∧
  (s.doneServing = true → s.serve = .returned) ∧
  (s.closers ≠ [] → s.closeSignalled = true) ∧
  (∀ c ∈ s.closers, c = .waiting → (s.serving = true ∨ s.doneServing = true)) ∧
  (∀ c ∈ s.closers, c = .returned → s.serving = false) ∧
  ((s.peers.map (·.1)).Nodup)

theorem Inv.not_serving {s : LState} (h : Inv s) (hs : s.serve = .notCalled ∨ s.serve = .returned) :
    s.serving = false :=
  Bool.eq_false_iff.2 fun hsv => by rcases h.2.1.1 hsv with h' | h' <;> rcases hs with hs | hs <;> cases h'.symm.trans hs

theorem inv_step {s s' : LState} {e : LEv} (hinv : Inv s) (hstep : lstep s e = some s') : Inv s' := by
  have hns := hinv.not_serving
  obtain ⟨h1, h2, h3, h4, h5, h6, h7⟩ := hinv
  cases e <;> simp only [lstep, Option.ite_none_right_eq_some, Option.some.injEq, Bool.and_eq_true, beq_iff_eq] at hstep
  case add k =>
    split at hstep <;> cases hstep
    · exact ⟨h1, h2, h3, h4, h5, h6, h7⟩
    · next hk =>
      refine ⟨List.forall_mem_append.2 ⟨h1, List.forall_mem_singleton.2 rfl⟩, h2, h3, h4, h5, h6,
        nodup_keys_append _ h7 fun p hp hpk => hk ?_⟩
      exact List.any_eq_true.2 ⟨p, hp, beq_iff_eq.2 hpk⟩
  case del k =>
    split at hstep <;> cases hstep
    · exact ⟨fun p hp => h1 p (List.mem_filter.1 hp).1, h2, h3, h4, h5, h6, h7.sublist (List.filter_sublist.map _)⟩
    · exact ⟨h1, h2, h3, h4, h5, h6, h7⟩
  case closeCall =>
    split at hstep <;> cases hstep <;> rename_i hsv <;>
      refine ⟨h1, h2, h3, fun _ => rfl, List.forall_mem_append.2 ⟨h5, List.forall_mem_singleton.2 ?_⟩,
        List.forall_mem_append.2 ⟨h6, List.forall_mem_singleton.2 ?_⟩, h7⟩
    · exact fun _ => .inl hsv
    · nofun
    · nofun
    · exact fun _ => Bool.eq_false_iff.2 hsv
  case closeReturn i =>
    obtain ⟨⟨hd, -⟩, rfl⟩ := hstep
    exact ⟨h1, h2, h3, fun hne => h4 (mt (List.set_eq_nil_iff i _).2 hne), fun _ _ _ => .inr hd,
      fun _ _ _ => hns (.inr (h3 hd)), h7⟩
  case serveCall =>
    split at hstep
    · cases hstep
    next hnc =>
    have hnc : s.serve = .notCalled := by simpa using hnc
    have hsf := hns (.inl hnc)
    split at hstep <;> cases hstep
    · exact ⟨h1, by simp [hsf], fun _ => rfl, h4, h5, h6, h7⟩
    · next hcs =>
      -- `Serve` goes ahead only if no `Close` was ever called
      simp only [Bool.or_eq_true, not_or, Bool.not_eq_true] at hcs
      have hnil : s.closers = [] := Classical.byContradiction fun hne => by simp [h4 hne] at hcs
      refine ⟨List.forall_mem_map.2 fun _ _ => rfl, by simp, ?_, h4, ?_, ?_, ?_⟩
      · show s.doneServing = true → _
        simp [hcs.1]
      · show ∀ c ∈ s.closers, _
        simp [hnil]
      · show ∀ c ∈ s.closers, _
        simp [hnil]
      · rwa [List.map_map]
  case serveWake =>
    obtain ⟨⟨hb, -⟩, rfl⟩ := hstep
    exact ⟨h1, by simp [h2.2 (.inl hb)], fun hd => by simp [h3 hd] at hb, h4, h5, h6, h7⟩
  case listenerError =>
    obtain ⟨hb, rfl⟩ := hstep
    exact ⟨h1, by simp [h2.2 (.inl hb)], fun hd => by simp [h3 hd] at hb, h4, h5, h6, h7⟩
  case serveTeardown =>
    obtain ⟨-, rfl⟩ := hstep
    exact ⟨List.forall_mem_map.2 fun _ _ => rfl, by simp, fun _ => rfl, h4, fun _ _ _ => .inr rfl,
      fun _ _ _ => rfl, by rwa [List.map_map]⟩

theorem inv_reachable (s : LState) (h : LReach s) : Inv s := by
  induction h with
  | init => simp [Inv]
  | step e _ hstep ih => exact inv_step ih hstep

/-- "a peer added while serving starts operating; a peer added otherwise does not; a deleted peer is stopped":
in every reachable state the running peers are exactly the registered ones iff the server is serving -/
theorem started_iff_serving (s : LState) (h : LReach s) (k : Nat) (b : Bool) (hk : (k, b) ∈ s.peers) :
    b = s.serving :=
  (inv_reachable s h).1 (k, b) hk

/-- once `Serve` has returned nothing is running — whatever calls were made in whatever window -/
theorem quiescent_after_serve (s : LState) (h : LReach s) (hr : s.serve = .returned) :
    ∀ p ∈ s.peers, p.2 = false :=
  fun p hp => ((inv_reachable s h).1 p hp).trans ((inv_reachable s h).not_serving (.inr hr))

/-- a `Close` that has returned leaves nothing running, now and in every later state (it returns at once only if
nothing was serving — and then no later `Serve` starts anything —, otherwise only after the tear-down) -/
theorem close_returned_quiescent (s : LState) (h : LReach s) (i : Nat) (hc : s.closers[i]? = some .returned) :
    s.serving = false ∧ ∀ p ∈ s.peers, p.2 = false :=
  have hinv := inv_reachable s h
  have hsf := hinv.2.2.2.2.2.1 _ (List.mem_of_getElem? hc) rfl
  ⟨hsf, fun p hp => (hinv.1 p hp).trans hsf⟩

/-- no `Close` waits for ever: while one waits, `Serve` can always take its next step, and after the tear-down the
`Close` itself can return (progress; fairness of the scheduler assumed) -/
theorem close_progress (s : LState) (h : LReach s) (i : Nat) (hc : s.closers[i]? = some .waiting) :
    (lstep s .serveWake).isSome ∨ (lstep s .serveTeardown).isSome ∨ (lstep s (.closeReturn i)).isSome := by
  obtain ⟨_, h2, _, h4, h5, _, _⟩ := inv_reachable s h
  have hmem := List.mem_of_getElem? hc
  have hcs : s.closeSignalled = true := h4 (List.ne_nil_of_mem hmem)
  rcases h5 _ hmem rfl with hsv | hd
  · rcases h2.mp hsv with hb | hb
    · left; simp [lstep, hb, hcs]
    · right; left; simp [lstep, hb]
  · right; right; simp [lstep, hd, hc]

/-- `Serve` after `Close` returns `ErrServerClosed` without starting anything (any interleaving) -/
theorem serve_after_close (s s' : LState) (h : LReach s) (hc : s.closeSignalled = true) (hs : lstep s .serveCall = some s') :
    s'.serve = .returned ∧ s'.peers = s.peers ∧ s'.serving = s.serving := by
  have _ := h
  simp only [lstep, hc, Bool.or_true, if_true, Option.ite_none_left_eq_some, Option.some.injEq] at hs
  obtain ⟨-, rfl⟩ := hs
  exact ⟨rfl, rfl, rfl⟩

/-- registry calls never block and never change whether the server is serving -/
theorem registry_calls_enabled (s : LState) (k : Nat) :
    (∃ s', lstep s (.add k) = some s' ∧ s'.serving = s.serving) ∧ (∃ s', lstep s (.del k) = some s' ∧ s'.serving = s.serving) := by
  constructor <;> simp only [lstep] <;> split <;> exact ⟨_, rfl, rfl⟩

/-- non-vacuity: the window in question is reachable — `Close` has signalled, `Serve` is on its way down, and a peer
added right then is running; after the tear-down it is not -/
example : ∃ s, LReach s ∧ s.closeSignalled = true ∧ s.serve = .closing ∧ (7, true) ∈ s.peers := by
  refine ⟨_, LReach.step (.add 7) (LReach.step .serveWake (LReach.step .closeCall (LReach.step .serveCall LReach.init rfl) rfl) rfl) rfl, ?_⟩
  decide

def casesOf (fn : String) : List (List String) := (CoreBGP.Gen.selects.filter (·.fn = fn)).map (·.cases)
def bareOf (fn : String) : List String := (CoreBGP.Gen.bareChanOps.filter (·.fn = fn)).flatMap (·.cases)

/-- `Serve`: a non-blocking look at `doneServingCh` / `closeCh` on entry (`serveCall` refuses iff one is closed), then
the blocking `select` on `closeCh` and the listeners' error channel (`serveWake`, `listenerError`); an accept loop
offers its error or sees the listeners being closed; `Close` waits on `doneServingCh` and nothing else -/
theorem serve_close_channels :
    casesOf "Server.Serve" = [["default", "recv s.closeCh", "recv s.doneServingCh"], ["recv lisErrCh", "recv s.closeCh"]] ∧
    casesOf "Server.Serve$2" = [["recv closingListeners", "send lisErrCh"]] ∧
    bareOf "Server.Close" = ["recv s.doneServingCh"] := by decide +kernel

end CoreBGP.Props.C20Life
