import CoreBGP.Model.PathSem
/-!
# Path tie: the L1 session machine `react` against the regenerated control paths of `fsm.go`

`Gen.codePaths` is regenerated from `/repo` on every run (every control path of `openSent`, `openConfirm`,
`established` and their helpers: guards, effects in program order, exit). The tie has a code side and a model side.
The code side is evaluated on the regenerated paths: for every input class some path is selected and every selected
path has the visible effects and the exit of the class (`shapeOK`), every path is selected by some class
(`scopeComplete`), nothing outside a known vocabulary is called (`scopeCallsKnown`). The model side (`react_shape`) does
not depend on the paths: `react` has the shape of the class of its input. `follows_of_shapeOK` puts the two together.

The code side is split by scope over `PathTieC02`, `PathTieC03`, `PathTieC06`, `PathTieC09`, `PathTieC10`, so that a change to
one part of a state function is reported by the property it belongs to; each of them evaluates its scope once
(`scopeOK`). Such evaluations are by the kernel alone (`decide +kernel`): plain `decide` would evaluate the same closed
term a first time in the elaborator.
-/
namespace CoreBGP.Props.PathTie
open CoreBGP CoreBGP.Model CoreBGP.Gen

/-- the shape of one `react` step, by input class: visible effects in order, exit -/
def clsReact (ph : Phase) (c : ICls) : List Vis × ExitS :=
  let est := ph == .established
  -- every exit from Established runs `OnClose` after the connection is closed
  let down : List Vis := if est then [.close, .onClose] else [.close]
  match c.sel with
  | .closeCh => (.sendNotif :: down, .ret .disabled .sent)
  | .holdTimer => (.sendNotif :: down, .ret .idle .sent)
  | .kaTimer => ([.sendKA], .loop)
  | .readerErr =>
    match c.errNotif with
    | some true => (.sendNotif :: down, .ret .idle .sent)
    | some false => (down, .ret .idle .rcvd)
    | none => (down, .ret (if ph == .openSent then .active else .idle) .io)
  | .readerMsg =>
    match c.msg, ph with
    | .notif, _ => (down, .ret .idle .rcvd)
    | .open_, .openSent =>
      if c.invalid then (.sendNotif :: down, .ret .idle .sent)
      else if c.refuses then (.onOpen :: .sendNotif :: down, .ret .idle .sent)
      else ([.onOpen, .sendKA], .ret .openConfirm .none)
    | .keepalive, .openConfirm => ([], .ret .established .none)
    | .keepalive, .established => ([], .loop)
    | .update, .established =>
      if c.refuses then (.handler :: .sendNotif :: down, .ret .idle .sent) else ([.handler], .loop)
    | _, _ => (.sendNotif :: down, .ret .idle .sent)

def errClasses : List (Option Bool) := [none, some true, some false]

/-- the input classes of each state: the image of `clsOf` (first part of `react_shape`) -/
def allCls : Phase → List ICls
  | .openSent =>
    [{ sel := .closeCh }, { sel := .holdTimer }] ++ errClasses.map (fun e => { sel := .readerErr, errNotif := e }) ++
    [{ sel := .readerMsg, msg := .notif }, { sel := .readerMsg, msg := .keepalive }, { sel := .readerMsg, msg := .update },
     { sel := .readerMsg, msg := .open_, invalid := true }, { sel := .readerMsg, msg := .open_, refuses := true },
     { sel := .readerMsg, msg := .open_ }]
  | .openConfirm =>
    [{ sel := .closeCh }, { sel := .holdTimer }, { sel := .kaTimer }] ++ errClasses.map (fun e => { sel := .readerErr, errNotif := e }) ++
    [{ sel := .readerMsg, msg := .notif }, { sel := .readerMsg, msg := .keepalive }, { sel := .readerMsg, msg := .update },
     { sel := .readerMsg, msg := .open_ }]
  | .established =>
    [{ sel := .closeCh }, { sel := .holdTimer }, { sel := .kaTimer }] ++ errClasses.map (fun e => { sel := .readerErr, errNotif := e }) ++
    [{ sel := .readerMsg, msg := .notif }, { sel := .readerMsg, msg := .keepalive }, { sel := .readerMsg, msg := .update },
     { sel := .readerMsg, msg := .update, refuses := true }, { sel := .readerMsg, msg := .open_ }]
  | .closed => []

def phases : List Phase := [.openSent, .openConfirm, .established]

/-- what a selected path must look like -/
def pathAgrees (ph : Phase) (c : ICls) (p : CodePath) : Bool :=
  pathVis (envOfCls c) p == (clsReact ph c).1 && pathExit (wrappedOf c) p == (clsReact ph c).2

/-- the code side for one class: some path is selected, and every selected path has the shape -/
def shapeOK (ph : Phase) (c : ICls) : Bool :=
  !(selected (fnName ph) (envOfCls c)).isEmpty && (selected (fnName ph) (envOfCls c)).all (pathAgrees ph c)

/-- which property's tie answers for a path: by the case of the `select` it starts with, and for a received
message by its kind (anything unforeseen falls to C09) -/
inductive Scope where
  | c02 | c03 | c06 | c09 | c10
deriving DecidableEq, Repr, Inhabited

def scopeOfCls (ph : Phase) (c : ICls) : Scope :=
  match c.sel with
  | .closeCh => .c10
  | .holdTimer => .c06
  | .kaTimer => .c06
  | .readerErr => .c09
  | .readerMsg =>
    if ph == .openSent && c.msg == .open_ then .c02
    else if ph == .established && c.msg == .update then .c03
    else .c09

def scopeOfPath (p : CodePath) : Scope :=
  if p.guards.contains (selGuard .closeCh, true) then .c10
  else if p.guards.contains (selGuard .holdTimer, true) || p.guards.contains (selGuard .kaTimer, true) then .c06
  else if p.fn == "openSent" && p.guards.contains (msgGuard .open_, true) then .c02
  else if p.fn == "established" && p.guards.contains (msgGuard .update, true) then .c03
  else .c09

def classesOf (sc : Scope) : List (Phase × ICls) :=
  (phases.flatMap fun ph => (allCls ph).map fun c => (ph, c)).filter fun pc => scopeOfCls pc.1 pc.2 == sc

/-- a path on which the KEEPALIVE write failed -/
def writeFailed (p : CodePath) : Bool := p.guards.contains ("f.sendKeepAlive()!=nil", true)

/-- a path on which `OnEstablished` returned no handler (the model's plugin installs one) -/
def noHandler (p : CodePath) : Bool := p.guards.contains ("f.peer.plugin.OnEstablished()!=nil", false)

/-- every path in the scope is selected by a class of the scope (or is one of the two excepted kinds) -/
def scopeComplete (sc : Scope) : Bool :=
  phases.all fun ph => ((pathsOf (fnName ph)).filter fun p => scopeOfPath p == sc).all fun p =>
    writeFailed p || noHandler p || ((classesOf sc).any fun pc => pc.1 == ph && pathSat (envOfCls pc.2) p)

/-- everything called (as a statement or on the right of an assignment) on a path of the three functions -/
def vocabulary : List String :=
  ["f.sendNotification", "f.sendKeepAlive", "f.peer.plugin.OnOpenMessage", "handler", "f.cleanupConnAndReader",
   "f.peer.plugin.OnClose", "f.handleNotificationInErr", "f.drainAndResetHoldTimer", "newNotification",
   "m.validate", "errors.As", "binary.BigEndian.PutUint32", "netip.AddrFrom4",
   "time.NewTimer(f.keepAliveInterval)", "time.NewTimer(longHoldTime)", "time.NewTimer(f.peer.options.connectRetryTime)",
   "f.holdTimer.Stop", "f.keepAliveTimer.Stop", "f.keepAliveTimer.Reset(f.keepAliveInterval)",
   "set f.connectRetryTimer=time.NewTimer(f.peer.options.connectRetryTime)", "set f.remoteID=m.bgpID",
   "set f.holdTime=time.Duration(m.holdTime)*time.Second", "set f.holdTime=f.peer.options.holdTime",
   "set f.keepAliveInterval=f.holdTime/3", "set f.keepAliveInterval=0",
   "set f.keepAliveTimer=time.NewTimer(f.keepAliveInterval)", "set f.keepAliveTimer=time.NewTimer(longHoldTime)",
   "recv f.holdTimer.C", "send resetKATimerCh",
   "recv kaManagerDoneCh", "verifPoint", "deferred close(closeKAManagerCh)", "deferred close(writer.closeCh)"]

/-- nothing else happens on the paths of the scope: no further write, callback, close or channel operation -/
def scopeCallsKnown (sc : Scope) : Bool :=
  phases.all fun ph => ((pathsOf (fnName ph)).filter fun p => scopeOfPath p == sc).all fun p => p.calls.all vocabulary.contains

/-- all that is asked of the regenerated paths of one scope; the three parts walk the same paths, so each property
evaluates them together, once -/
def scopeOK (sc : Scope) : Bool :=
  (classesOf sc).all (fun pc => shapeOK pc.1 pc.2) && scopeComplete sc && scopeCallsKnown sc

theorem scopeOK_iff {sc : Scope} : scopeOK sc = true ↔
    (∀ pc ∈ classesOf sc, shapeOK pc.1 pc.2 = true) ∧ scopeComplete sc = true ∧ scopeCallsKnown sc = true := by
  simp [scopeOK, and_assoc]

/-- the code side of a tie, from the form in which it is evaluated to the form in which it is used -/
theorem selected_all {fn : String} {ρ : GEnv} {ok : CodePath → Bool}
    (h : (selected fn ρ).isEmpty = false ∧ (selected fn ρ).all ok = true) :
    selected fn ρ ≠ [] ∧ ∀ p ∈ selected fn ρ, ok p = true :=
  ⟨by simpa using h.1, List.all_eq_true.mp h.2⟩

theorem wireType_prepend (m : Bytes) (t : UInt8) : wireType (prependHeader m t) = t.toNat := by
  unfold wireType prependHeader be16Bytes
  simp [List.replicate]

@[simp] theorem wireType_notif (n : Notif) : wireType (encodeNotif n) = Gen.notificationMessageType := by
  simp [encodeNotif, wireType_prepend]; decide

@[simp] theorem wireType_ka : wireType kaBytes = Gen.keepAliveMessageType := by
  simp [kaBytes, wireType_prepend]; decide

theorem ka_ne_notif : ¬ (Gen.keepAliveMessageType = Gen.notificationMessageType) := by decide

theorem vis_teardown (est : Bool) (n : Option Notif) (next : St) (err : Option ErrK) :
    actsVis (teardown est n next err) =
      (if n.isSome then [Vis.sendNotif] else []) ++ [.close] ++ (if est then [.onClose] else []) := by
  cases n <;> cases est <;> simp [teardown, actsVis, visOfAct]

theorem exit_teardown (est : Bool) (n : Option Notif) (next : St) (err : Option ErrK) :
    actsExit (teardown est n next err) = .ret next (errSOf err) := by
  cases n <;> cases est <;> simp [teardown, actsExit]

theorem vis_cons (a : Act) (l : List Act) : actsVis (a :: l) = visOfAct a ++ actsVis l := by simp [actsVis]
theorem vis_append (a l : List Act) : actsVis (a ++ l) = actsVis a ++ actsVis l := by simp [actsVis]
theorem vis_nil : actsVis [] = [] := rfl
theorem exit_onOpen (i : UInt32) (c : List Cap) (l : List Act) : actsExit ([.onOpen i c] ++ l) = actsExit l := by simp [actsExit]
theorem exit_handler (b : Bytes) (l : List Act) : actsExit ([.handler b] ++ l) = actsExit l := by simp [actsExit]

/-- closes one case of `react_shape` (the class being a closed term): it is listed, by evaluation; `react` unfolded on the
concrete input, `actsVis` / `actsExit` pushed through the action list by the lemmas above, is the row of `clsReact` -/
local macro "shape" : tactic =>
  `(tactic| (refine ⟨List.contains_iff_mem.1 rfl, ?_⟩
             simp only [react, onReaderErr, fsmErr, vis_append, exit_onOpen, exit_handler, vis_teardown, exit_teardown,
               vis_cons, vis_nil, clsReact, errClsOf, visOfAct, wireType_ka, wireType_notif, ka_ne_notif, msgKOf]
             simp [actsExit, errSOf]))

/-- the model side: the class of every input is listed, and `react` has the shape of its class -/
theorem react_shape (cfg : SessCfg) (ph : Phase) (inp : Input) (ret : Option Notif) (c : ICls)
    (hph : ph ∈ phases) (hc : clsOf cfg ph inp ret = some c) :
    c ∈ allCls ph ∧ actsVis (react cfg ph inp ret).2 = (clsReact ph c).1 ∧
      actsExit (react cfg ph inp ret).2 = (clsReact ph c).2 := by
  cases ph with
  | closed => simp [phases] at hph
  | openSent =>
    cases inp with
    | kaTimer | writeUpdate => cases hc
    | closeReq | holdExpired => cases hc; shape
    | readerErr e => cases hc; rcases e with ⟨n, _ | _⟩ | _ | _ | _ <;> shape
    | msg m =>
      cases m with
      | open_ o =>
        cases hc
        cases hv : validateOpen o cfg.localID cfg.localAS cfg.remoteAS with
        | some n => simp only [react, hv]; shape
        | none => cases ret <;> (simp only [react, hv]; shape)
      | _ => cases hc; shape
  | openConfirm =>
    cases inp with
    | writeUpdate => cases hc
    | readerErr e => cases hc; rcases e with ⟨n, _ | _⟩ | _ | _ | _ <;> shape
    | msg m => cases m <;> (cases hc; shape)
    | _ => cases hc; shape
  | established =>
    cases inp with
    | writeUpdate => cases hc
    | readerErr e => cases hc; rcases e with ⟨n, _ | _⟩ | _ | _ | _ <;> shape
    | msg m =>
      cases m with
      | update b => cases hc; cases ret <;> shape
      | _ => cases hc; shape
    | _ => cases hc; shape

theorem mem_classesOf (ph : Phase) (c : ICls) (hph : ph ∈ phases) (hc : c ∈ allCls ph) :
    (ph, c) ∈ classesOf (scopeOfCls ph c) := by
  simp only [classesOf, List.mem_filter, List.mem_flatMap, List.mem_map, beq_self_eq_true, and_true]
  exact ⟨ph, hph, c, hc, rfl⟩

/-- **the L1 model does what the code's paths do** (generic form; each property instantiates it with the
classes of its scope, evaluated on the regenerated paths): for every configuration, state, input that is a
case of the state's `select`, and plugin answer — the class of the input selects at least one control path of
the state function as regenerated from `fsm.go`, and every selected path has exactly the visible effects of
`react`, in the same order, and the same exit -/
theorem follows_of_shapeOK (sc : Scope) (hsc : ∀ pc ∈ classesOf sc, shapeOK pc.1 pc.2 = true)
    (cfg : SessCfg) (ph : Phase) (inp : Input) (ret : Option Notif) (c : ICls)
    (hph : ph ∈ phases) (hc : clsOf cfg ph inp ret = some c) (hs : scopeOfCls ph c = sc) :
    selected (fnName ph) (envOfCls c) ≠ [] ∧
    ∀ p ∈ selected (fnName ph) (envOfCls c),
      pathVis (envOfCls c) p = actsVis (react cfg ph inp ret).2 ∧
      pathExit (wrappedOf c) p = actsExit (react cfg ph inp ret).2 := by
  obtain ⟨hmem, hv, he⟩ := react_shape cfg ph inp ret c hph hc
  have hok := hsc (ph, c) (hs ▸ mem_classesOf ph c hph hmem)
  simp only [shapeOK, Bool.and_eq_true, Bool.not_eq_true'] at hok
  obtain ⟨hne, hall⟩ := selected_all hok
  refine ⟨hne, fun p hp => ?_⟩
  have := hall p hp
  simp only [pathAgrees, Bool.and_eq_true, beq_iff_eq] at this
  exact ⟨this.1.trans hv.symm, this.2.trans he.symm⟩

/-- which inputs have a class: everything except a KEEPALIVE-timer event in OpenSent (there is no such timer
yet: `react` ignores it) and `WriteUpdate` (not a case of the `select`: `Model.Writer`) -/
theorem cls_defined (cfg : SessCfg) (ph : Phase) (inp : Input) (ret : Option Notif) :
    (clsOf cfg ph inp ret).isNone ↔ (inp = .kaTimer ∧ ph = .openSent) ∨ ∃ b, inp = .writeUpdate b := by
  cases inp <;> simp [clsOf]
  case msg m => cases ph <;> cases m <;> simp

end CoreBGP.Props.PathTie
