import CoreBGP.Spec.Lin
import CoreBGP.Props.C20
import CoreBGP.Lemmas.Lin
/-!
# C20 — concurrent use: linearizability

1. The history checker `Spec.Lin.lin` used by the correspondence engine on histories recorded from
   concurrent goroutines calling the real `Server` is sound and complete for the declarative
   definition `Spec.Lin.Linearizable` (for every step function, state and history).
2. Histories of a system in which every operation takes effect atomically at one point between its
   invocation and its return (what `Server.mu` gives: `C10Own.mutex_held` over the regenerated access
   table; the Go memory model is the trusted part) are linearizable: `atomic_linearizable`.
3. Linearizability transfers along a simulation (`lin_transfer`); with the refinement theorems of
   `Props.C20` a history that is linearizable for the registry model is linearizable for the abstract
   partial map `Spec.Registry` (`registry_lin_transfer`).
-/
namespace CoreBGP.Props.C20Lin
open CoreBGP CoreBGP.Spec.Lin

variable {σ ο ρ : Type} [DecidableEq ρ]

/-- soundness: an accepted history has a linearization -/
theorem lin_sound (step : σ → ο → σ × ρ) (n : Nat) (s : σ) (h : List (Ev ο ρ)) :
    lin step n s h = true → Linearizable step s h :=
  (Lemmas.Lin.lin_spec step n s h).1

/-- completeness: with enough fuel, every linearizable history is accepted — a rejection by the
checker is a genuine non-linearizable history, never an artefact of the search -/
theorem lin_complete (step : σ → ο → σ × ρ) (n : Nat) (s : σ) (h : List (Ev ο ρ)) (hn : h.length ≤ n) :
    Linearizable step s h → lin step n s h = true :=
  (Lemmas.Lin.lin_spec step n s h).2 hn

/-- the checker decides linearizability -/
theorem lin_iff (step : σ → ο → σ × ρ) (s : σ) (h : List (Ev ο ρ)) :
    lin step h.length s h = true ↔ Linearizable step s h :=
  ⟨lin_sound step _ s h, lin_complete step _ s h (Nat.le_refl _)⟩

/-- An execution in which each call takes effect atomically: the calls in the order of their
effect points, each effect point lying between the call's own invocation and return stamps and
the effect points strictly increasing. -/
structure AtomicExec (ο ρ : Type) where
  calls : List (Ev ο ρ × Nat)         -- call and its effect point, in effect order
  within : ∀ p ∈ calls, p.1.inv < p.2 ∧ p.2 < p.1.ret
  increasing : calls.Pairwise fun a b => a.2 < b.2

/-- every history of an atomic execution whose results are those of running `step` in effect order
is linearizable — in particular accepted by the checker, whatever the order in which the harness
lists the calls -/
theorem atomic_linearizable (step : σ → ο → σ × ρ) (s : σ) (x : AtomicExec ο ρ)
    (hres : SeqOK step s (x.calls.map (·.1))) (h : List (Ev ο ρ)) (hp : h.Perm (x.calls.map (·.1))) :
    lin step h.length s h = true := by
  apply lin_complete step _ s h (Nat.le_refl _)
  refine ⟨x.calls.map (·.1), hp.symm, ?_, hres⟩
  unfold RespectsRT
  rw [List.pairwise_map]
  refine List.Pairwise.imp_of_mem ?_ x.increasing
  intro a b ha hb hab hlt
  have h1 := x.within a ha
  have h2 := x.within b hb
  omega

omit [DecidableEq ρ] in
/-- linearizability transfers along a simulation between two step functions with equal results -/
theorem lin_transfer {α : Type} (stepC : σ → ο → σ × ρ) (stepA : α → ο → α × ρ) (R : σ → α → Prop)
    (hsim : ∀ s a op, R s a → (stepC s op).2 = (stepA a op).2 ∧ R (stepC s op).1 (stepA a op).1)
    (s : σ) (a : α) (hR : R s a) (h : List (Ev ο ρ)) :
    Linearizable stepC s h → Linearizable stepA a h := by
  rintro ⟨l, hp, hrt, hseq⟩
  refine ⟨l, hp, hrt, ?_⟩
  clear hp hrt
  induction l generalizing s a with
  | nil => trivial
  | cons e es ih =>
    obtain ⟨h1, h2⟩ := hseq
    obtain ⟨hr, hR'⟩ := hsim s a e.op hR
    exact ⟨hr ▸ h1, ih _ _ hR' h2⟩

inductive ROp where
  | add (c : PeerCfg) | del (k : Addr) | get (k : Addr)

inductive RRes where
  | ok | invalid | alreadyExists | notExist | cfg (c : PeerCfg)

/-- the model's registry operations with their API results -/
def mStep (s : Model.Server) : ROp → Model.Server × RRes
  | .add c => ((s.addPeer c).1, match (s.addPeer c).2 with
      | none => .ok | some .alreadyExists => .alreadyExists | some _ => .invalid)
  | .del k => ((s.deletePeer k).1, match (s.deletePeer k).2 with | none => .ok | some _ => .notExist)
  | .get k => (s, match s.getPeer k with | .ok c => .cfg c | .error _ => .notExist)

/-- the same operations on the abstract map -/
def aStep (r : Spec.Registry) : ROp → Spec.Registry × RRes
  | .add c => ((r.add c).1, match (r.add c).2 with
      | .ok => .ok | .alreadyExists => .alreadyExists | .invalid => .invalid)
  | .del k => ((r.delete k).1, if (r.delete k).2 then .ok else .notExist)
  | .get k => (r, match r k with | some c => .cfg c | none => .notExist)

theorem registry_sim (s : Model.Server) (op : ROp) :
    (mStep s op).2 = (aStep (C20.abs s) op).2 ∧ C20.abs (mStep s op).1 = (aStep (C20.abs s) op).1 := by
  cases op with
  | add c =>
    -- `add_refines` is stated with `let (s', e) := …`: its two pairs are named inside it and in the goal at once
    have h := C20.add_refines s c
    revert h
    simp only [mStep, aStep]
    rcases s.addPeer c with ⟨s', e⟩
    rcases (C20.abs s).add c with ⟨r', res⟩
    rintro ⟨h1, h2, h3, h4, -⟩
    refine ⟨?_, h1⟩
    cases res with
    | ok => rw [h2.1 rfl]
    | alreadyExists => rw [h3.1 rfl]
    | invalid => rcases h4.1 rfl with rfl | rfl <;> rfl
  | del k =>
    have h := C20.delete_refines s k
    revert h
    simp only [mStep, aStep]
    rcases s.deletePeer k with ⟨s', e⟩
    rcases (C20.abs s).delete k with ⟨r', ok⟩
    rintro ⟨h1, h2, h3⟩
    refine ⟨?_, h1⟩
    cases ok with
    | true => rw [h2.1 rfl]; rfl
    | false => rw [h3.1 rfl]; rfl
  | get k =>
    simp only [mStep, aStep, C20.get_refines]
    cases C20.abs s k <;> simp

omit [DecidableEq ρ] in
/-- a concurrent history that is linearizable for the registry model is linearizable for the
abstract partial map keyed by remote address -/
theorem registry_lin_transfer (h : List (Ev ROp RRes)) :
    Linearizable mStep ({} : Model.Server) h → Linearizable aStep Spec.Registry.empty h :=
  lin_transfer mStep aStep (fun s r => C20.abs s = r) (fun s _ op hR => hR ▸ registry_sim s op) {} _ rfl h

def setStep (s : List Nat) (k : Nat) : List Nat × Bool := if k ∈ s then (s, false) else (k :: s, true)

-- non-vacuity / the checker does reject: two successful adds of the same key cannot be linearized
-- against a set-insert specification, two overlapping calls with the second result `false` can
example : lin setStep 2 [] [⟨0, 1, 4, 7, true⟩, ⟨1, 2, 3, 7, true⟩] = false := by decide
example : lin setStep 2 [] [⟨0, 1, 4, 7, false⟩, ⟨1, 2, 3, 7, true⟩] = true := by decide
/-- real-time order matters: the call that returned first cannot be ordered second -/
example : lin setStep 2 [] [⟨0, 1, 2, 7, false⟩, ⟨1, 3, 4, 7, true⟩] = false := by decide

end CoreBGP.Props.C20Lin
