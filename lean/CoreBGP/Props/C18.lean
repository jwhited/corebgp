import CoreBGP.Model.Update
import CoreBGP.Spec.Update
import CoreBGP.Lemmas.Attrs
/-!
# C18 — typed path-attribute decoders accept exactly well-formed attributes

`Spec.attrOutcomes code flags v` is the RFC table (DESIGN E.4): `[ok]` when the Optional /
Transitive bits are those the RFC assigns and the value satisfies the RFC's rule, otherwise the
admissible (approach, subcode) failures. `Conforms` says a decoder result is one of them — hence
success *exactly* when the attribute is well-formed — and that a decoded value is `exact`.

ATOMIC_AGGREGATE does not conform on the tree under /repo (known finding, DESIGN section 10 item 11):
the statement the other ten decoders have is false of it: `atomicagg_not_exact` proves the negation with a
witness, and `atomicagg_exact_partial` proves conformance to the table with exactly that entry changed.
-/
namespace CoreBGP.Props.C18
open CoreBGP CoreBGP.Model

def errApproach : Err → Option (Spec.Approach × UInt8 × Option Notif)
  | .taw c n => some (.withdraw, c, n)
  | .discard c n => some (.discard, c, n)
  | _ => none

def ConformsTo {α} (outs : List Spec.AttrOutcome) (code : UInt8) (r : Except Err α) (exact : α → Prop) : Prop :=
  match r with
  | .ok a => Spec.AttrOutcome.ok ∈ outs ∧ exact a
  | .error e => Spec.AttrOutcome.ok ∉ outs ∧
      ∃ ap n, errApproach e = some (ap, code, some n) ∧ n.code = 3 ∧ Spec.AttrOutcome.fail ap n.sub.toNat ∈ outs

def Conforms {α} (code flags : UInt8) (v : Bytes) (r : Except Err α) (exact : α → Prop) : Prop :=
  ConformsTo (Spec.attrOutcomes code flags v) code r exact

private def valueOutcomes (ap : Spec.Approach) (code : UInt8) (v : Bytes) : List Spec.AttrOutcome :=
  match Spec.valueFault code v with
  | none => [.ok]
  | some subs => subs.map (.fail ap ·)

private theorem attrOutcomes_eq (code flags : UInt8) (v : Bytes) (r : Spec.AttrRule)
    (hr : Spec.attrRule code = some r) :
    Spec.attrOutcomes code flags v =
      if flagOptional flags ≠ r.optional ∨ flagTransitive flags ≠ r.transitive then [.fail .withdraw 4]
      else valueOutcomes r.onMalformed code v := by
  simp only [Spec.attrOutcomes, valueOutcomes, hr, flagOptional, flagTransitive, ne_eq, Lemmas.prop_eq_bool]
  congr

theorem conformsTo_flags {α} (outs : List Spec.AttrOutcome) (code flags : UInt8) (v : Bytes) (o t : Bool)
    (body : Except Err α) (exact : α → Prop)
    (hbad : flagOptional flags ≠ o ∨ flagTransitive flags ≠ t → outs = [.fail .withdraw 4])
    (hbody : flagOptional flags = o → flagTransitive flags = t → ConformsTo outs code body exact) :
    ConformsTo outs code (match validateFlags flags code v o t with | some e => .error e | none => body) exact := by
  by_cases h : flagOptional flags ≠ o ∨ flagTransitive flags ≠ t
  · rw [Lemmas.validateFlags_conflict _ _ _ _ _ h, hbad h]
    exact ⟨by simp, .withdraw, ⟨3, 4, Spec.attrErrData code v⟩, rfl, rfl, by simp⟩
  · have h1 : flagOptional flags = o := Decidable.byContradiction fun h1 => h (.inl h1)
    have h2 : flagTransitive flags = t := Decidable.byContradiction fun h2 => h (.inr h2)
    rw [Lemmas.validateFlags_ok _ _ _ _ _ h1 h2]
    exact hbody h1 h2

private theorem conforms_flags {α} (code flags : UInt8) (v : Bytes) (o t : Bool) (ap : Spec.Approach)
    (hr : Spec.attrRule code = some ⟨code, o, t, ap⟩) (body : Except Err α) (exact : α → Prop)
    (hbody : ConformsTo (valueOutcomes ap code v) code body exact) :
    Conforms code flags v
      (match validateFlags flags code v o t with | some e => .error e | none => body) exact := by
  unfold Conforms
  rw [attrOutcomes_eq code flags v _ hr]
  refine conformsTo_flags _ code flags v o t _ _ (fun h => if_pos h) fun h1 h2 => ?_
  rw [if_neg (by simp [h1, h2])]
  exact hbody

private theorem conformsTo_lenErr {α} (ap : Spec.Approach) (code : UInt8) (v : Bytes) (e : Err)
    (exact : α → Prop) (he : errApproach e = some (ap, code, some (attrLenBad code v))) :
    ConformsTo [.fail ap 5] code (.error e : Except Err α) exact :=
  ⟨by simp, ap, _, he, by rw [Lemmas.attrLenBad_eq], by rw [Lemmas.attrLenBad_eq]; simp⟩

theorem conformsTo_len {α} (ap : Spec.Approach) (code : UInt8) (v : Bytes) (bad : Prop) [Decidable bad]
    (e : Err) (a : α) (exact : α → Prop)
    (he : errApproach e = some (ap, code, some (attrLenBad code v))) (ha : ¬ bad → exact a) :
    ConformsTo (if bad then [.fail ap 5] else [.ok]) code (if bad then .error e else .ok a) exact := by
  by_cases h : bad
  · simp only [h, if_true]
    exact conformsTo_lenErr ap code v e exact he
  · simp only [h, if_false]
    exact ⟨by simp, ha h⟩

private theorem valueOutcomes_len (ap : Spec.Approach) {code : UInt8} {v : Bytes} {bad : Prop} [Decidable bad]
    (hv : Spec.valueFault code v = if bad then some [5] else none) :
    valueOutcomes ap code v = if bad then [.fail ap 5] else [.ok] := by
  unfold valueOutcomes
  rw [hv]
  by_cases h : bad <;> simp only [h, if_true, if_false, List.map]

private theorem fixed4_conforms (code flags : UInt8) (v : Bytes) (o t : Bool)
    (hr : Spec.attrRule code = some ⟨code, o, t, .withdraw⟩)
    (hv : Spec.valueFault code v = if v.length ≠ 4 then some [5] else none) :
    Conforms code flags v (decodeFixed4 code o t flags v) (fun x => x = v) := by
  unfold decodeFixed4
  refine conforms_flags code flags v o t .withdraw hr _ _ ?_
  rw [valueOutcomes_len _ hv]
  exact conformsTo_len .withdraw code v _ _ _ _ rfl fun _ => rfl

theorem conforms_multiple {α} (code flags : UInt8) (v : Bytes) (o t : Bool) (k : Nat) (hk : 0 < k)
    (f : Bytes → α) (exact : α → Prop) (hr : Spec.attrRule code = some ⟨code, o, t, .withdraw⟩)
    (hv : Spec.valueFault code v = if v.length = 0 ∨ v.length % k ≠ 0 then some [5] else none)
    (hf : v ≠ [] → v.length % k = 0 → exact (f v)) :
    Conforms code flags v
      (match validateFlags flags code v o t with
        | some e => .error e
        | none => if v.length < k ∨ v.length % k ≠ 0 then .error (.taw code (some (attrLenBad code v))) else .ok (f v))
      exact := by
  refine conforms_flags code flags v o t .withdraw hr _ _ ?_
  -- the code says "shorter than `k`" where the rule says "empty"
  have hb : (v.length < k ∨ v.length % k ≠ 0) = (v.length = 0 ∨ v.length % k ≠ 0) := by
    apply propext
    constructor
    · rintro (h | h)
      · by_cases h0 : v.length = 0
        · exact .inl h0
        · exact .inr (by rw [Nat.mod_eq_of_lt h]; exact h0)
      · exact .inr h
    · rintro (h | h)
      · exact .inl (by omega)
      · exact .inr h
  rw [valueOutcomes_len _ hv]
  simp only [hb]
  refine conformsTo_len .withdraw code v _ _ _ _ rfl fun h => hf ?_ (by omega)
  intro h0; subst h0; simp at h

private theorem aspath_err {α} (v : Bytes) (e : Err) (exact : α → Prop)
    (hsp : Spec.asPathSegs v.length v = none) (he : Lemmas.asPathErr e) :
    ConformsTo (valueOutcomes .withdraw 2 v) 2 (.error e : Except Err α) exact := by
  have hv : valueOutcomes .withdraw 2 v = [.fail .withdraw 11, .fail .withdraw 5] := by
    simp only [valueOutcomes, Spec.valueFault, hsp, Option.isSome_none, Bool.false_eq_true, if_false,
      List.map]
  rw [hv]
  obtain ⟨n, rfl, hc, hsub⟩ := he
  refine ⟨by simp, .withdraw, n, rfl, hc, ?_⟩
  rcases hsub with h | h <;> simp [h]

theorem origin_exact (flags : UInt8) (v : Bytes) :
    Conforms 1 flags v (decodeOrigin flags v) (fun x => v = [x]) := by
  unfold decodeOrigin
  refine conforms_flags 1 flags v false true .withdraw rfl _ _ ?_
  match v with
  | [] | _ :: _ :: _ => exact conformsTo_lenErr _ _ _ _ _ rfl
  | [x] =>
    simp only [valueOutcomes, Spec.valueFault]
    by_cases h : x > 2
    · have h' : x.toNat > 2 := by simpa [UInt8.lt_iff_toNat_lt] using h
      simp only [h, h', if_true, List.map]
      exact ⟨by simp, .withdraw, _, rfl, rfl, by simp [Gen.NOTIF_SUBCODE_INVALID_ORIGIN_ATTR]⟩
    · have h' : ¬ x.toNat > 2 := by simpa [UInt8.lt_iff_toNat_lt] using h
      simp only [h, h', if_false]
      exact ⟨by simp, rfl⟩

/-- AS_PATH: every AS number of every segment, sets and sequences kept apart, in wire order -/
theorem aspath_exact (flags : UInt8) (v : Bytes) :
    Conforms 2 flags v (decodeASPath flags v) (fun p =>
      ∃ segs, Spec.asPathSegs v.length v = some segs ∧
        p.asSet.map (·.toNat) = (segs.filter (·.1 = 1)).flatMap (·.2) ∧
        p.asSequence.map (·.toNat) = (segs.filter (·.1 = 2)).flatMap (·.2)) := by
  unfold decodeASPath
  refine conforms_flags 2 flags v false true .withdraw rfl _ _ ?_
  by_cases h0 : v.length = 0
  · cases List.eq_nil_of_length_eq_zero h0
    exact ⟨by simp [valueOutcomes, Spec.valueFault, Spec.asPathSegs], [], rfl, rfl, rfl⟩
  rw [if_neg h0]
  have := Lemmas.asPathLoop_spec (v.length + 1) v {} v.length (by omega) (by omega)
  by_cases h6 : v.length < 6 ∨ v.length % 2 ≠ 0
  · unfold decodeASPathLoop at this
    rw [if_neg h0, if_pos h6] at this
    rw [if_pos h6]
    exact aspath_err v _ _ this.1 this.2
  rw [if_neg h6]
  generalize decodeASPathLoop _ _ _ = r at this ⊢
  cases r with
  | error e => exact aspath_err v _ _ this.1 this.2
  | ok p =>
    obtain ⟨segs, hs1, hs2, hs3⟩ := this
    have hv : valueOutcomes .withdraw 2 v = [.ok] := by
      simp only [valueOutcomes, Spec.valueFault, hs1, Option.isSome_some, if_true]
    rw [hv]
    exact ⟨by simp, segs, hs1, by simpa using hs2, by simpa using hs3⟩

theorem nexthop_exact (flags : UInt8) (v : Bytes) :
    Conforms 3 flags v (decodeNextHop flags v) (fun x => x = v) :=
  fixed4_conforms 3 flags v false true rfl rfl

theorem med_exact (flags : UInt8) (v : Bytes) :
    Conforms 4 flags v (decodeMED flags v) (fun x => x = v) :=
  fixed4_conforms 4 flags v true false rfl rfl

theorem localpref_exact (flags : UInt8) (v : Bytes) :
    Conforms 5 flags v (decodeLocalPref flags v) (fun x => x = v) :=
  fixed4_conforms 5 flags v false true rfl rfl

/-- the RFC table with the ATOMIC_AGGREGATE entry as the code has it (Optional = 1) -/
def atomicAggOutcomesAsCoded (flags : UInt8) (v : Bytes) : List Spec.AttrOutcome :=
  if flags.toNat / 128 % 2 ≠ 1 ∨ flags.toNat / 64 % 2 ≠ 1 then [.fail .withdraw 4]
  else if v.length ≠ 0 then [.fail .discard 5] else [.ok]

/-- partial: what is proved about ATOMIC_AGGREGATE on the tree under /repo (missing: the Optional
bit expectation of RFC 4271 §5.1.6) -/
theorem atomicagg_exact_partial (flags : UInt8) (v : Bytes) :
    ConformsTo (atomicAggOutcomesAsCoded flags v) 6 (decodeAtomicAggregate flags v) (fun x => x = true) := by
  have hc : (flags.toNat / 128 % 2 ≠ 1 ∨ flags.toNat / 64 % 2 ≠ 1) ↔
      (flagOptional flags ≠ true ∨ flagTransitive flags ≠ true) := by simp [flagOptional, flagTransitive]
  unfold decodeAtomicAggregate atomicAggOutcomesAsCoded
  refine conformsTo_flags _ 6 flags v true true _ _ (fun h => if_pos (hc.2 h)) fun h1 h2 => ?_
  rw [if_neg (by rw [hc]; simp [h1, h2])]
  exact conformsTo_len .discard 6 v (v.length ≠ 0) _ true _ rfl fun _ => rfl

/-- the full statement fails on the tree under /repo: flags `0x40` with an empty value is a
well-formed ATOMIC_AGGREGATE and is rejected (replay: `attr.atomicagg 64 -`) -/
theorem atomicagg_not_exact :
    ¬ Conforms 6 0x40 [] (decodeAtomicAggregate 0x40 []) (fun x => x = true) := by
  intro h
  have h1 : Spec.AttrOutcome.ok ∉ Spec.attrOutcomes 6 0x40 [] := h.1
  exact h1 (by decide)

theorem aggregator_exact (flags : UInt8) (v : Bytes) :
    Conforms 7 flags v (decodeAggregator flags v) (fun x => be32Bytes x.1 ++ x.2 = v ∧ x.2.length = 4) := by
  unfold decodeAggregator
  refine conforms_flags 7 flags v true true .discard rfl _ _ ?_
  by_cases hl : v.length = 8
  · match v, hl with
    | [a, b1, c, d, i1, i2, i3, i4], _ =>
      exact ⟨by simp [valueOutcomes, Spec.valueFault], by simp only [Lemmas.be32Bytes_be32]; rfl, rfl⟩
  · rw [valueOutcomes_len (bad := v.length ≠ 8) _ rfl, if_pos hl]
    split
    · exact absurd rfl hl
    · exact conformsTo_lenErr _ _ _ _ _ rfl

theorem communities_exact (flags : UInt8) (v : Bytes) :
    Conforms 8 flags v (decodeCommunities flags v) (fun x => (x.map be32Bytes).flatten = v) :=
  conforms_multiple 8 flags v true true 4 (by decide) (fun b => (decodeUint32Set b).getD []) _ rfl rfl fun hne h4 => by
    obtain ⟨l, h1, h2⟩ := Lemmas.u32set_go_rt v h4
    rw [Lemmas.u32set_eq_go v hne, h1]
    exact h2

theorem originatorid_exact (flags : UInt8) (v : Bytes) :
    Conforms 9 flags v (decodeOriginatorID flags v) (fun x => x = v) :=
  fixed4_conforms 9 flags v true false rfl rfl

theorem clusterlist_exact (flags : UInt8) (v : Bytes) :
    Conforms 10 flags v (decodeClusterList flags v) (fun x => x.flatten = v ∧ ∀ a ∈ x, a.length = 4) :=
  conforms_multiple 10 flags v true false 4 (by decide) chunks4 _ rfl rfl fun _ h4 => Lemmas.chunks4_rt v h4

theorem largecomm_exact (flags : UInt8) (v : Bytes) :
    Conforms 32 flags v (decodeLargeCommunities flags v)
      (fun x => (x.map fun (a, b, c) => be32Bytes a ++ be32Bytes b ++ be32Bytes c).flatten = v) :=
  conforms_multiple 32 flags v true true 12 (by decide) largeComms _ rfl rfl fun _ h12 =>
    Lemmas.largeComms_rt (v.length / 12) v (by omega)

/-- flag conflicts are treat-as-withdraw with subcode 4 for every typed decoder, and carry the
attribute (type, length — two octets above 255 —, value) as data -/
theorem flag_conflict (flags code : UInt8) (v : Bytes) (o t : Bool)
    (h : flagOptional flags ≠ o ∨ flagTransitive flags ≠ t) :
    validateFlags flags code v o t = some (.taw code (some ⟨3, 4, Spec.attrErrData code v⟩)) :=
  Lemmas.validateFlags_conflict flags code v o t h

/-- the four accessors are bits 7..4 of the flags octet -/
theorem flag_accessors (f : UInt8) :
    flagOptional f = f.toNat.testBit 7 ∧ flagTransitive f = f.toNat.testBit 6 ∧
    flagPartial f = f.toNat.testBit 5 ∧ flagExtendedLen f = f.toNat.testBit 4 := by
  simp only [flagOptional, flagTransitive, flagPartial, flagExtendedLen, Nat.testBit_eq_decide_div_mod_eq]
  simp

example : Spec.attrOutcomes 2 0x40 [2, 1, 0, 0, 253, 234] = [.ok] := by decide
example : Spec.attrOutcomes 1 0x40 [3] = [.fail .withdraw 6] := by decide

end CoreBGP.Props.C18
