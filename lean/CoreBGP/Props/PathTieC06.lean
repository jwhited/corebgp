import CoreBGP.Props.PathTie
/-! Path tie of C06 (see `Props.PathTie` for the method): the statements about the regenerated control paths of
`fsm.go` in the scope `c06`. -/
namespace CoreBGP.Props.PathTieC06
open CoreBGP CoreBGP.Model CoreBGP.Gen CoreBGP.Props.PathTie

theorem scope_ok : scopeOK .c06 = true := by decide +kernel

/-- the L1 model does what the code's paths do, for every input whose class is in this scope -/
theorem react_follows_code (cfg : SessCfg) (ph : Phase) (inp : Input) (ret : Option Notif) (c : ICls)
    (hph : ph ∈ phases) (hc : clsOf cfg ph inp ret = some c) (hs : scopeOfCls ph c = .c06) :
    selected (fnName ph) (envOfCls c) ≠ [] ∧
    ∀ p ∈ selected (fnName ph) (envOfCls c),
      pathVis (envOfCls c) p = actsVis (react cfg ph inp ret).2 ∧
      pathExit (wrappedOf c) p = actsExit (react cfg ph inp ret).2 :=
  follows_of_shapeOK .c06 (scopeOK_iff.mp scope_ok).1 cfg ph inp ret c hph hc hs

/-- every path of the code in this scope is a path of the model -/
theorem every_path_modelled : scopeComplete .c06 = true := (scopeOK_iff.mp scope_ok).2.1

/-- nothing outside the known vocabulary is called on a path of this scope -/
theorem calls_known : scopeCallsKnown .c06 = true := (scopeOK_iff.mp scope_ok).2.2

example : (classesOf .c06).length > 0 := by decide

/-- the write-failure paths end the connection like a transport fault: closed (and `OnClose` from Established),
Idle, a wrapped non-NOTIFICATION error -/
theorem write_failure_paths :
    ∀ ph ∈ phases, ∀ p ∈ pathsOf (fnName ph), writeFailed p = true →
      pathExit .io p = .ret .idle .io ∧
      (pathVis (fun _ => none) p).filter (· != .onOpen) =
        [.sendKA, .close] ++ (if ph == .established then [.onClose] else []) := by
  decide +kernel

/-- `WriteUpdate` and the keepalive timer (`tstep .writeUpdate`): the keepalive manager is told to restart the timer only on
a path on which the UPDATE was written successfully, nothing is deferred to the return, and a call that is refused or whose
write fails leaves the timer alone -/
theorem write_update_restarts_after_write :
    (∀ p ∈ pathsOf "WriteUpdate", p.guards.contains ("select send u.resetKATimerCh", true) = true →
      p.guards.contains ("u.conn.Write()==nil", true) = true ∧
      p.calls.getLast? = some "u.conn.Write(prependHeader(b,updateMessageType))") ∧
    (∀ p ∈ pathsOf "WriteUpdate", p.calls.all (fun c => c == "verifPoint" || c == "u.conn.Write(prependHeader(b,updateMessageType))") = true) ∧
    (pathsOf "WriteUpdate").any (fun p => p.guards.contains ("select send u.resetKATimerCh", true)) = true := by
  decide +kernel

/-- entering OpenSent (`tInit`): the hold timer is created with `longHoldTime` on the one path that reaches OpenSent -/
theorem open_sent_timer_path :
    ∀ p ∈ pathsOf "sendOpenAndSetHoldTimer", p.ret = ["openSentState"] →
      (p.calls.filter fun c => c == "set f.holdTimer=time.NewTimer(longHoldTime)").length = 1 ∧
      (tInit 0 0).holdDl = some (0 + Gen.longHoldTime) := by
  decide +kernel


/-- what a step does to the timers, by timer class -/
def clsTEffs (c : TCls) : List TEff :=
  match c.k, c.ph with
  | .openAccepted, _ =>
    [.holdFromOpen] ++ (if c.localLess then [.holdFromConfig] else []) ++
      (if c.holdNZ then [.kaIntThird, .armKA, .stopHold, .armHold] else [.stopHold, .kaIntZero, .armKALong, .stopKA])
  | .kaFire, .openConfirm => [.armKA]
  | .kaFire, _ => if c.holdNZ then [.armKA] else []
  | _, _ => if c.holdNZ then [.stopHold, .armHold] else []

def bools : List Bool := [false, true]

def timerClasses : List TCls :=
  (bools.flatMap fun nz => bools.map fun ll => ({ ph := .openSent, k := .openAccepted, holdNZ := nz, localLess := ll } : TCls)) ++
  (bools.flatMap fun nz => [({ ph := .openConfirm, k := .keepalive, holdNZ := nz, localLess := false } : TCls),
    { ph := .established, k := .keepalive, holdNZ := nz, localLess := false },
    { ph := .established, k := .update, holdNZ := nz, localLess := false },
    { ph := .openConfirm, k := .kaFire, holdNZ := nz, localLess := false },
    { ph := .established, k := .kaFire, holdNZ := nz, localLess := false }])

/-- the code side: for every timer class some path is selected, and every selected path does to the timers what the
table says, in that order -/
theorem code_timer_effects :
    ∀ c ∈ timerClasses, (selected (fnName c.ph) (envOfTCls c)).isEmpty = false ∧
      (selected (fnName c.ph) (envOfTCls c)).all (fun p => pathTEffs (envOfTCls c) p == clsTEffs c) = true := by
  decide +kernel

/-- the timer class of a step of the timed model -/
def tclsOf (s : TSess) : TEv → Option TCls
  | .openAccepted remoteHold =>
    some { ph := s.phase, k := .openAccepted, localLess := decide (s.localHold < remoteHold),
           holdNZ := (if s.localHold < remoteHold then s.localHold else remoteHold) != 0 }
  | .keepalive => some { ph := s.phase, k := .keepalive, holdNZ := s.hold != 0, localLess := false }
  | .update => some { ph := s.phase, k := .update, holdNZ := s.hold != 0, localLess := false }
  | .kaFire => some { ph := s.phase, k := .kaFire, holdNZ := s.hold != 0, localLess := false }
  | _ => none

def remoteHoldOf : TEv → Nat
  | .openAccepted r => r
  | _ => 0

/-- the model side: a step of the timed model (`tstep`) changes hold time, keepalive interval and the two deadlines
exactly as the effects of its class do, applied in order (`hka`: with hold time 0 there is no keepalive timer —
part of the invariant `C06.Inv` of every reachable state) -/
theorem tstep_effects (s s' : TSess) (ev : TEv) (o : TOut) (c : TCls)
    (hc : tclsOf s ev = some c) (h : tstep s ev = some (s', o)) (hka : s.hold = 0 → s.kaDl = none) :
    c ∈ timerClasses ∧
    (clsTEffs c).foldl (applyTEff s.now (remoteHoldOf ev) s.localHold) (tiOf s) = tiOf s' := by
  cases ev with
  | tick dt => simp [tclsOf] at hc
  | holdFire => simp [tclsOf] at hc
  | writeUpdate => simp [tclsOf] at hc
  | openAccepted r =>
    simp only [tclsOf, Option.some.injEq] at hc; subst hc
    by_cases hph : s.phase = .openSent
    · by_cases hl : s.localHold < r
      · by_cases hz : s.localHold = 0
        · have hr : 0 < r := by omega
          simp [tstep, hph, hz] at h
          obtain ⟨rfl, _⟩ := h
          simp [hph, hz, hr, clsTEffs, timerClasses, bools, applyTEff, tiOf, kaInterval, remoteHoldOf]
        · simp [tstep, hph, hl, hz] at h
          obtain ⟨rfl, _⟩ := h
          simp [hph, hl, hz, clsTEffs, timerClasses, bools, applyTEff, tiOf, kaInterval, remoteHoldOf]
      · by_cases hz : r = 0
        · simp [tstep, hph, hz] at h
          obtain ⟨rfl, _⟩ := h
          simp [hph, hz, clsTEffs, timerClasses, bools, applyTEff, tiOf, kaInterval, remoteHoldOf]
        · simp [tstep, hph, hl, hz] at h
          obtain ⟨rfl, _⟩ := h
          simp [hph, hl, hz, clsTEffs, timerClasses, bools, applyTEff, tiOf, kaInterval, remoteHoldOf]
    · simp [tstep, hph] at h
  | keepalive =>
    simp only [tclsOf, Option.some.injEq] at hc; subst hc
    cases hph : s.phase <;> simp [tstep, hph] at h <;>
      (obtain ⟨rfl, _⟩ := h
       by_cases hz : s.hold = 0 <;>
         simp [hz, clsTEffs, timerClasses, bools, applyTEff, tiOf, kaInterval, remoteHoldOf])
  | update =>
    simp only [tclsOf, Option.some.injEq] at hc; subst hc
    by_cases hph : s.phase = .established
    · simp [tstep, hph] at h
      obtain ⟨rfl, _⟩ := h
      by_cases hz : s.hold = 0 <;>
        simp [hph, hz, clsTEffs, timerClasses, bools, applyTEff, tiOf, kaInterval, remoteHoldOf]
    · simp [tstep, hph] at h
  | kaFire =>
    simp only [tclsOf, Option.some.injEq] at hc; subst hc
    cases hph : s.phase <;> simp [tstep, hph] at h <;>
      (obtain ⟨hf, rfl, _⟩ := h
       by_cases hz : s.hold = 0
       · have := hka hz; simp [fired, this] at hf
       · simp [hz, clsTEffs, timerClasses, bools, applyTEff, tiOf, kaInterval, remoteHoldOf])

/-- **the timed model re-arms and stops the timers where the code does**: for every step of the timed model that takes
a message from the reader or serves the keepalive timer, every control path of the state function selected for the
class of the step, read as timer operations (hold time assigned from the OPEN / from the configuration, keepalive
interval, timers armed and stopped — `drainAndResetHoldTimer` and the keepalive manager goroutine through their own
regenerated paths), turns the timers of the state before the step into the timers of the state after it -/
theorem timers_follow_code (s s' : TSess) (ev : TEv) (o : TOut) (c : TCls)
    (hc : tclsOf s ev = some c) (h : tstep s ev = some (s', o)) (hka : s.hold = 0 → s.kaDl = none) :
    selected (fnName c.ph) (envOfTCls c) ≠ [] ∧
    ∀ p ∈ selected (fnName c.ph) (envOfTCls c),
      (pathTEffs (envOfTCls c) p).foldl (applyTEff s.now (remoteHoldOf ev) s.localHold) (tiOf s) = tiOf s' := by
  obtain ⟨hmem, heff⟩ := tstep_effects s s' ev o c hc h hka
  obtain ⟨hne, hall⟩ := selected_all (code_timer_effects c hmem)
  refine ⟨hne, fun p hp => ?_⟩
  rw [beq_iff_eq.mp (hall p hp)]; exact heff

end CoreBGP.Props.PathTieC06
