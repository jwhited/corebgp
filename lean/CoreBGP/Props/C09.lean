import CoreBGP.Model.Session
import CoreBGP.Spec.Session
/-!
# C09 — state-dependent message handling follows RFC 4271 §8.2.2 / RFC 6608

About `Model.react`, the transcription of the three `select` loops of `fsm.go`. Which L2 location
each phase runs in, and that an Established session's `OnClose` is delivered exactly once over a
whole peer history, is C01's history theorem; here: exactly once per session ending.
-/
namespace CoreBGP.Props.C09
open CoreBGP CoreBGP.Model

def phaseOf : Spec.SState → Phase
  | .openSent => .openSent | .openConfirm => .openConfirm | .established => .established

def isSend : Act → Bool | .send _ => true | _ => false
def isOnClose : Act → Bool | .onClose => true | _ => false

theorem teardown_onClose (est : Bool) (n : Option Notif) (next : St) (err : Option ErrK) :
    ((teardown est n next err).filter isOnClose).length = if est then 1 else 0 := by
  cases est <;> cases n <;> rfl

theorem onReaderErr_onClose (est : Bool) (io : St) (e : RErr) :
    ((onReaderErr est io e).filter isOnClose).length = if est then 1 else 0 := by
  unfold onReaderErr; split <;> exact teardown_onClose ..

/-- the constants are the RFCs' -/
theorem constants :
    Gen.NOTIF_CODE_FSM_ERR = 5 ∧ Gen.NOTIF_SUBCODE_RX_UNEXPECTED_MESSAGE_OPENSENT = 1 ∧
    Gen.NOTIF_SUBCODE_RX_UNEXPECTED_MESSAGE_OPENCONFIRM = 2 ∧ Gen.NOTIF_SUBCODE_RX_UNEXPECTED_MESSAGE_ESTABLISHED = 3 ∧
    Gen.openMessageType = 1 ∧ Gen.updateMessageType = 2 ∧ Gen.notificationMessageType = 3 ∧ Gen.keepAliveMessageType = 4 ∧
    Gen.NOTIF_CODE_CEASE = 6 ∧ Gen.NOTIF_CODE_HOLD_TIMER_EXPIRED = 4 := by decide

theorem type_of (m : RMsg) : m.type.toNat = match m with
    | .open_ _ => 1 | .update _ => 2 | .notif _ => 3 | .keepalive => 4 := by
  cases m <;> rfl

/-- the table, unexpected-message half: in each state a message type that is not legal progress
causes exactly `[send NOTIFICATION (5, subcode of the state, [type octet]), close (, OnClose if
Established), report Idle]` -/
theorem unexpected_message (cfg : SessCfg) (s : Spec.SState) (m : RMsg) (ret : Option Notif) (sub : Nat)
    (h : Spec.fsmReaction s m.type.toNat = .fsmError sub) :
    react cfg (phaseOf s) (.msg m) ret =
      (.closed, teardown (s = .established) (some ⟨5, UInt8.ofNat sub, [m.type]⟩) .idle (some (.sent 5))) := by
  cases s <;> cases m <;> simp [Spec.fsmReaction, RMsg.type, Gen.openMessageType, Gen.updateMessageType,
    Gen.notificationMessageType, Gen.keepAliveMessageType] at h <;> subst h <;>
    simp [react, phaseOf, fsmErr, RMsg.type, teardown, Gen.NOTIF_CODE_FSM_ERR,
      Gen.NOTIF_SUBCODE_RX_UNEXPECTED_MESSAGE_OPENSENT, Gen.NOTIF_SUBCODE_RX_UNEXPECTED_MESSAGE_OPENCONFIRM,
      Gen.NOTIF_SUBCODE_RX_UNEXPECTED_MESSAGE_ESTABLISHED, Gen.openMessageType, Gen.updateMessageType, Gen.keepAliveMessageType]

/-- a NOTIFICATION received in any state ends that connection without corebgp sending anything -/
theorem notification_no_reply (cfg : SessCfg) (s : Spec.SState) (n : Notif) (ret : Option Notif) :
    react cfg (phaseOf s) (.msg (.notif n)) ret =
      (.closed, teardown (s = .established) none .idle (some (.rcvd n.code))) := by
  cases s <;> simp [react, phaseOf]

/-- a transport failure (or an undecodable NOTIFICATION) ends it silently -/
theorem io_error_silent (cfg : SessCfg) (s : Spec.SState) (e : RErr) (ret : Option Notif)
    (he : e = .eof ∨ e = .other) :
    (react cfg (phaseOf s) (.readerErr e) ret).1 = .closed ∧
    ((react cfg (phaseOf s) (.readerErr e) ret).2.any isSend) = false := by
  rcases he with rfl | rfl <;> cases s <;> simp [react, phaseOf, onReaderErr, teardown, isSend]

/-- a reader error carrying a NOTIFICATION (header / OPEN faults, C08 / C02) leads to exactly
`[send it, close (, OnClose), report]` in each state -/
theorem reader_notification (cfg : SessCfg) (s : Spec.SState) (n : Notif) (ret : Option Notif) :
    react cfg (phaseOf s) (.readerErr (.notif n true)) ret =
      (.closed, teardown (s = .established) (some n) .idle (some (.sent n.code))) := by
  cases s <;> simp [react, phaseOf, onReaderErr]

/-- legal progress: KEEPALIVE in OpenConfirm establishes; KEEPALIVE in Established changes nothing -/
theorem keepalive_progress (cfg : SessCfg) (ret : Option Notif) :
    react cfg .openConfirm (.msg .keepalive) ret = (.established, [.report .established none, .onEstablished]) ∧
    react cfg .established (.msg .keepalive) ret = (.established, []) := by
  simp [react]

/-- in Established, every input ends the session with exactly one `OnClose` or leaves it up with
none: `OnClose` fires exactly once per Established session, whatever ends it -/
theorem onclose_exactly_once (cfg : SessCfg) (inp : Input) (ret : Option Notif) :
    let r := react cfg .established inp ret
    (r.1 = .closed → (r.2.filter isOnClose).length = 1) ∧ (r.1 = .established → (r.2.filter isOnClose).length = 0) ∧
    (r.1 = .closed ∨ r.1 = .established) := by
  cases inp with
  | msg m => cases m <;> cases ret <;> simp [react, teardown_onClose, isOnClose]
  | readerErr e => simp [react, onReaderErr_onClose]
  | _ => simp [react, teardown_onClose, isOnClose]

/-- before Established no input produces an `OnClose` -/
theorem no_onclose_before_established (cfg : SessCfg) (ph : Phase) (hp : ph = .openSent ∨ ph = .openConfirm)
    (inp : Input) (ret : Option Notif) : ((react cfg ph inp ret).2.filter isOnClose).length = 0 := by
  rcases hp with rfl | rfl
  · cases inp with
    | msg m =>
      cases m with
      | open_ o =>
        simp only [react]
        cases validateOpen o cfg.localID cfg.localAS cfg.remoteAS <;> cases ret <;>
          simp [teardown_onClose, isOnClose]
      | _ => simp [react, teardown_onClose]
    | readerErr e => simp [react, onReaderErr_onClose]
    | _ => simp [react, teardown_onClose]
  · cases inp with
    | msg m => cases m <;> simp [react, teardown_onClose, isOnClose]
    | readerErr e => simp [react, onReaderErr_onClose]
    | _ => simp [react, teardown_onClose, isOnClose]

example : Spec.fsmReaction .openConfirm 2 = .fsmError 2 := by decide

end CoreBGP.Props.C09
