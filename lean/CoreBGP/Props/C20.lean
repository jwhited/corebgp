import CoreBGP.Model.Server
import CoreBGP.Spec.Server
import CoreBGP.Lemmas.Server
/-!
# C20 — the peer registry behaves as a consistent map and rejects unusable configurations

Refinement of the L3 registry model to the abstract partial map `Spec.Registry`, for every
operation sequence (induction over the sequence), plus the run-state invariants. Concurrency:
every operation runs under `s.mu` in the code (Gen.Access / trusted base), so concurrent use is
some sequential order of these steps; the harness checks that on the implementation.
-/
namespace CoreBGP.Props.C20
open CoreBGP CoreBGP.Model
open CoreBGP.Lemmas.Server CoreBGP.Lemmas.Assoc

def abs (s : Server) : Spec.Registry := fun k => s.lookup k

/-- representation invariant: keys are unique and each entry is filed under its own remote address -/
def Inv (s : Server) : Prop :=
  (s.peers.map (·.1)).Nodup ∧ (∀ p ∈ s.peers, p.1 = p.2.remote) ∧
  (s.serving = true → s.running = s.peers.map (·.1)) ∧ (s.serving = false → s.running = [])

/-- `AddPeer` validates exactly as the property says: remote address valid, local address unset or
of the same family, both AS ≠ 0, hold ∉ (0, 3 s), port in 1..65535 -/
theorem validate_iff (c : PeerCfg) :
    (validateOptions c && validateConfig c) = true ↔ Spec.validConfig c := by
  rw [Bool.and_eq_true, validateOptions_iff, validateConfig_iff, Spec.validConfig]
  constructor
  · rintro ⟨⟨a, b, c⟩, d, e, f, g⟩; exact ⟨d, e, f, g, a, b, c⟩
  · rintro ⟨d, e, f, g, a, b, c⟩; exact ⟨⟨a, b, c⟩, d, e, f, g⟩

/-- `NewServer` accepts exactly IPv4 router ids -/
theorem new_server_iff (a : Addr) : newServerOK a = true ↔ a.kind = .v4 := by
  simp [newServerOK, Addr.is4]

/-- `AddPeer` returns what the abstract map operation returns and commutes with `abs`; a rejected
call leaves the state unchanged -/
theorem add_refines (s : Server) (c : PeerCfg) :
    let (s', e) := s.addPeer c
    let (r', res) := (abs s).add c
    abs s' = r' ∧
    (res = .ok ↔ e = none) ∧ (res = .alreadyExists ↔ e = some .alreadyExists) ∧
    (res = .invalid ↔ (e = some .invalidOptions ∨ e = some .invalidConfig)) ∧
    (e ≠ none → s' = s) := by
  have hv := validate_iff c
  cases ho : validateOptions c with
  | false =>
    have hinv : ¬ Spec.validConfig c := fun h => by have := hv.2 h; simp [ho] at this
    rw [addPeer_invalidOptions s c ho]
    simp [Spec.Registry.add, hinv]
  | true =>
    cases hc : validateConfig c with
    | false =>
      have hinv : ¬ Spec.validConfig c := fun h => by have := hv.2 h; simp [ho, hc] at this
      rw [addPeer_invalidConfig s c ho hc]
      simp [Spec.Registry.add, hinv]
    | true =>
      have hvalid : Spec.validConfig c := hv.1 (by simp [ho, hc])
      cases hex : (s.lookup c.remote).isSome with
      | true =>
        rw [addPeer_exists s c ho hc hex]
        simp [Spec.Registry.add, hvalid, abs, hex]
      | false =>
        rw [addPeer_ok s c ho hc hex]
        simp only [Spec.Registry.add, hvalid, abs, hex]
        refine ⟨?_, by simp, by simp, by simp, by simp⟩
        funext x
        simp only [not_true_eq_false, Bool.false_eq_true, ↓reduceIte, Spec.Registry.insert]
        exact lookup_insert_new s _ c rfl hex x

/-- `DeletePeer` refines the abstract delete -/
theorem delete_refines (s : Server) (k : Addr) :
    let (s', e) := s.deletePeer k
    let (r', ok) := (abs s).delete k
    abs s' = r' ∧ (ok = true ↔ e = none) ∧ (ok = false ↔ e = some .notExist) := by
  cases h : s.lookup k with
  | none =>
    rw [deletePeer_none s k h]
    simp [Spec.Registry.delete, abs, h]
  | some c =>
    rw [deletePeer_some s k c h]
    simp only [Spec.Registry.delete, abs, h]
    refine ⟨?_, by simp, by simp⟩
    funext x
    simp only [Option.isSome_some, ↓reduceIte, Spec.Registry.erase]
    exact lookup_filter_ne s _ k rfl x

/-- `GetPeer` returns exactly what the map holds -/
theorem get_refines (s : Server) (k : Addr) :
    s.getPeer k = (match abs s k with | some c => .ok c | none => .error .notExist) := by
  simp only [Server.getPeer, abs]; cases s.lookup k <;> rfl

/-- `ListPeers` returns exactly the present configurations: `c` is listed iff the map holds it
under its remote address (given the representation invariant) -/
theorem list_refines (s : Server) (h : Inv s) (c : PeerCfg) :
    c ∈ s.listPeers ↔ abs s c.remote = some c := by
  obtain ⟨hnd, hkey, _, _⟩ := h
  simp only [Server.listPeers, abs, Server.lookup, List.mem_map]
  constructor
  · rintro ⟨p, hp, rfl⟩
    rw [← hkey p hp, find_of_mem_nodup s.peers hnd p hp]
    rfl
  · intro h
    cases hf : s.peers.find? (·.1 = c.remote) with
    | none => simp [hf] at h
    | some p =>
      simp only [hf, Option.map_some, Option.some.injEq] at h
      exact ⟨p, List.mem_of_find?_eq_some hf, h⟩

inductive Op where
  | add (c : PeerCfg) | del (k : Addr) | serve | close

def step (s : Server) : Op → Server
  | .add c => (s.addPeer c).1
  | .del k => (s.deletePeer k).1
  | .serve => s.serveStart.1
  | .close => s.close

theorem inv_add (s : Server) (c : PeerCfg) (h : Inv s) : Inv (s.addPeer c).1 := by
  obtain h' | ⟨hex, h'⟩ := addPeer_state s c <;> rw [h']
  · exact h
  obtain ⟨hnd, hkey, hs, hns⟩ := h
  -- a peer filed under that key would make `lookup` succeed
  have hnew : ∀ p ∈ s.peers, p.1 ≠ c.remote := fun p hp hpk => Bool.false_ne_true <| hex ▸ by
    rw [Server.lookup, Option.isSome_map, List.find?_isSome]; exact ⟨p, hp, decide_eq_true hpk⟩
  refine ⟨nodup_keys_append _ hnd hnew, List.forall_mem_append.2 ⟨hkey, List.forall_mem_singleton.2 rfl⟩,
    fun hserv => ?_, fun hserv => ?_⟩
  · show (if s.serving = true then _ else _) = _
    rw [if_pos hserv, hs hserv, List.map_append]; rfl
  · show (if s.serving = true then _ else _) = _
    rw [if_neg (Bool.eq_false_iff.1 hserv), hns hserv]

theorem inv_del (s : Server) (k : Addr) (h : Inv s) : Inv (s.deletePeer k).1 := by
  obtain h' | h' := deletePeer_state s k <;> rw [h']
  · exact h
  obtain ⟨hnd, hkey, hs, hns⟩ := h
  refine ⟨hnd.sublist (List.filter_sublist.map _), fun p hp => hkey p (List.mem_filter.1 hp).1,
    fun hserv => ?_, fun hserv => ?_⟩
  · show s.running.filter _ = _
    rw [hs hserv, List.filter_map]; rfl
  · show s.running.filter _ = _
    rw [hns hserv]; rfl

theorem inv_serve (s : Server) (h : Inv s) : Inv s.serveStart.1 := by
  unfold Server.serveStart
  split
  · exact h
  · exact ⟨h.1, h.2.1, fun _ => rfl, nofun⟩

theorem inv_close (s : Server) (h : Inv s) : Inv s.close := by
  unfold Server.close
  dsimp only
  split
  · exact ⟨h.1, h.2.1, nofun, fun _ => rfl⟩
  · exact h

/-- the representation invariant — and with it "a present peer is running iff the server is
serving" — holds in every reachable state, for every operation sequence, before, during and after
`Serve` -/
theorem inv_reachable (ops : List Op) : Inv (ops.foldl step {}) := by
  suffices ∀ s, Inv s → Inv (ops.foldl step s) from this _ (by simp [Inv])
  induction ops with
  | nil => exact fun s h => h
  | cons op ops ih =>
    refine fun s h => ih _ ?_
    cases op with
    | add c => exact inv_add s c h
    | del k => exact inv_del s k h
    | serve => exact inv_serve s h
    | close => exact inv_close s h

theorem running_iff (s : Server) (h : Inv s) (k : Addr) :
    k ∈ s.running ↔ (s.serving = true ∧ (abs s k).isSome) := by
  obtain ⟨_, _, hs, hns⟩ := h
  cases hserv : s.serving with
  | true =>
    rw [hs hserv, ← find_isSome_iff]
    simp [abs, Server.lookup]
  | false =>
    rw [hns hserv]; simp

/-- a peer added while serving starts operating; peers added before `Serve` start when `Serve` is
called; a deleted peer is stopped: in every reachable state the running peers are exactly the
present ones if serving, none otherwise -/
theorem started_iff_serving (ops : List Op) (k : Addr) :
    let s := ops.foldl step {}
    k ∈ s.running ↔ (s.serving = true ∧ (abs s k).isSome) :=
  running_iff _ (inv_reachable ops) k

theorem close_closed (s : Server) : s.close.closed = true := by
  simp only [Server.close, Server.serveEnd, apply_ite Server.closed, ite_self]

theorem closed_step (s : Server) (op : Op) (h : s.closed = true) : (step s op).closed = true := by
  cases op with
  | add c => obtain h' | ⟨-, h'⟩ := addPeer_state s c <;> rw [step, h'] <;> exact h
  | del k => obtain h' | h' := deletePeer_state s k <;> rw [step, h'] <;> exact h
  | serve => simpa only [step, Server.serveStart, apply_ite Prod.fst, apply_ite Server.closed, ite_self] using h
  | close => exact close_closed s

theorem closed_stable (ops : List Op) (s : Server) (h : s.closed = true) : (ops.foldl step s).closed = true := by
  induction ops generalizing s with
  | nil => exact h
  | cons op ops ih => exact ih _ (closed_step s op h)

/-- `Serve` after `Close` returns `ErrServerClosed`, whatever happens in between -/
theorem serve_after_close (ops₁ ops₂ : List Op) :
    ((ops₂.foldl step ((ops₁.foldl step {}).close)).serveStart).2 = some .serverClosed := by
  have h : (ops₂.foldl step ((ops₁.foldl step {}).close)).closed = true :=
    closed_stable _ _ (close_closed _)
  simp [Server.serveStart, h]

-- non-vacuity: a reachable state with two peers, serving
example : (([Op.add { remote := ⟨.v4, 1⟩, localAS := 1, remoteAS := 2 }, .serve,
            .add { remote := ⟨.v6, 2⟩, localAS := 1, remoteAS := 2 }].foldl step {}).running.length = 2) := by decide

end CoreBGP.Props.C20
