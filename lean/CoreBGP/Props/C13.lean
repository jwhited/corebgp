import CoreBGP.Model.Peer
import CoreBGP.Model.Server
import CoreBGP.Spec.Server
import CoreBGP.Lemmas.PeerStep
import CoreBGP.Props.C20
/-!
# C13 — only connections from configured peers to the configured address are served

Two stages, as in the code: `Server.admit` (L3, `handleInboundConn` under `s.mu`) decides whether a
connection reaches a peer manager at all; the manager (L2, `peer.go:267`) turns it into an FSM iff
the peer is not held down, has no inbound FSM and its outbound FSM is not Established. A refusal is
`conn.Close()` and nothing else: no byte is written, no callback invoked, no state changed.
-/
namespace CoreBGP.Props.C13
open CoreBGP CoreBGP.Model CoreBGP.Lemmas

/-- stage 1 is the specified predicate over the abstract registry: handed over iff a peer with that
remote address exists and (no local address configured or it equals the destination). `Server.admit` is a
function of the registry and returns no state: whatever the outcome, no peer's component changes. -/
theorem admit_spec (s : Server) (src dst : Addr) :
    s.admit src dst = Spec.admits (CoreBGP.Props.C20.abs s) src dst := by
  unfold Server.admit Spec.admits CoreBGP.Props.C20.abs
  cases hl : s.lookup src with
  | none => rfl
  | some c =>
    simp only [Addr.isValid]
    by_cases hk : c.localAddr.kind = .invalid
    · simp [hk]
    · by_cases hd : c.localAddr = dst
      · simp [hd]
      · simp [hk, hd]

/-- the two refusals of stage 1: no peer is configured for the source address … -/
theorem admit_unknown_source (s : Server) (src dst : Addr) (h : s.lookup src = none) : s.admit src dst = none := by
  unfold Server.admit
  rw [h]

/-- … or its configured local address is not the destination -/
theorem admit_wrong_destination (s : Server) (src dst : Addr) (c : PeerCfg) (h : s.lookup src = some c)
    (hl : c.localAddr.kind ≠ .invalid) (hd : c.localAddr ≠ dst) : s.admit src dst = none := by
  unfold Server.admit
  rw [h]
  simp [Addr.isValid, hl, hd]

/-- stage 2: the manager creates an inbound FSM iff not held down, no inbound FSM exists and the
outbound FSM is not recorded Established; otherwise the connection is just closed: the state is
unchanged -/
theorem busy (s : PState) (a : Bool) (s' : PState) (h : (Label.inConn a, s') ∈ pMain s) :
    (a = true ↔ (s.holdDown = false ∧ s.presentI = false ∧ s.stO ≠ .established)) ∧
    (a = false → s' = s) ∧ (a = true → s' = { s with todo := [.enable .inn true] }) := by
  cases (MainStep.of_mem h).2 with
  | refuse hc => exact ⟨⟨nofun, fun ⟨h1, h2, h3⟩ => by simp [h1, h2, h3] at hc⟩, fun _ => rfl, nofun⟩
  | accept hc => exact ⟨⟨fun _ => by simpa [and_assoc] using hc, fun _ => rfl⟩, nofun, fun _ => rfl⟩

/-- an admitted connection becomes an FSM that starts in Active holding the connection (it sends
its OPEN from there); nothing else changes -/
theorem admitted_starts_active (s : PState) (rest : List Instr) (h : s.presentI = false) :
    pInstr s (.enable .inn true) rest =
      [(.tau, (({ s with todo := rest }.setPresent .inn true).setSt .inn .disabled).setF .inn
          { pc := .req ⟨.disabled, .active⟩, conn := true })] := by
  have hp : s.present .inn = false := h
  simp [pInstr, hp]

end CoreBGP.Props.C13
