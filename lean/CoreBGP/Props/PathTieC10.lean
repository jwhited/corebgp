import CoreBGP.Props.PathTie
/-! Path tie of C10 (see `Props.PathTie` for the method): the statements about the regenerated control paths of
`fsm.go` in the scope `c10`. -/
namespace CoreBGP.Props.PathTieC10
open CoreBGP CoreBGP.Model CoreBGP.Gen CoreBGP.Props.PathTie

theorem scope_ok : scopeOK .c10 = true := by decide +kernel

/-- the L1 model does what the code's paths do, for every input whose class is in this scope -/
theorem react_follows_code (cfg : SessCfg) (ph : Phase) (inp : Input) (ret : Option Notif) (c : ICls)
    (hph : ph ∈ phases) (hc : clsOf cfg ph inp ret = some c) (hs : scopeOfCls ph c = .c10) :
    selected (fnName ph) (envOfCls c) ≠ [] ∧
    ∀ p ∈ selected (fnName ph) (envOfCls c),
      pathVis (envOfCls c) p = actsVis (react cfg ph inp ret).2 ∧
      pathExit (wrappedOf c) p = actsExit (react cfg ph inp ret).2 :=
  follows_of_shapeOK .c10 (scopeOK_iff.mp scope_ok).1 cfg ph inp ret c hph hc hs

/-- every path of the code in this scope is a path of the model -/
theorem every_path_modelled : scopeComplete .c10 = true := (scopeOK_iff.mp scope_ok).2.1

/-- nothing outside the known vocabulary is called on a path of this scope -/
theorem calls_known : scopeCallsKnown .c10 = true := (scopeOK_iff.mp scope_ok).2.2

example : (classesOf .c10).length > 0 := by decide

/-- a stop before OpenSent: `idle`, `connect`, `active` leave for `disabled`; `connect` first cancels the dial, waits for
its result (the dial goroutine is joined) and closes the connection it may carry -/
theorem early_stop_paths :
    (∀ fn ∈ ["idle", "connect", "active"], ∀ p ∈ pathsOf fn, p.guards.contains ("select recv f.closeCh", true) = true →
      p.exit = "return" ∧ p.ret = ["disabledState"]) ∧
    (∀ fn ∈ ["idle", "connect", "active"], (pathsOf fn).any (fun p => p.guards.contains ("select recv f.closeCh", true)) = true) ∧
    (∀ p ∈ pathsOf "connect", p.guards.contains ("select recv f.closeCh", true) = true →
      p.calls = ["f.cancelDialFn", "recv f.dialResultCh", "f.closeDialedConn", "f.connectRetryTimer.Stop"]) ∧
    (selected "closeDialedConn" (fun g => if g = "dr!=nil&&dr.conn!=nil" then some true else none)).map (·.calls) = [["dr.conn.Close"]] := by
  decide +kernel

end CoreBGP.Props.PathTieC10
