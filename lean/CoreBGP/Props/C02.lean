import CoreBGP.Model.Packet
import CoreBGP.Spec.Wire
import CoreBGP.Lemmas.Packet
/-!
# C02 — exactly the valid OPENs are accepted, others are refused with a fault that is present

The decode half (`decodeOpen b = ok o ↔ Spec.parseOpen b = some o`, errors name a structural
fault present) is `C15.open_decode_iff` / `C15.open_decode_err`; this file has the `validate` half.
The handshake half (what the FSM does with the verdict) is in `CoreBGP.Props.C02b`, on the L1 session model.
-/
namespace CoreBGP.Props.C02
open CoreBGP CoreBGP.Model

/-- `validate` accepts exactly the acceptable OPENs: version 4; 2-octet AS = remote AS or
AS_TRANS; a 4-octet-AS capability present, every one of length 4 and equal to remote AS; hold 0
or ≥ 3; identifier not multicast; not (same AS ∧ same identifier) -/
theorem validate_iff (o : OpenMsg) (localID localAS remoteAS : UInt32) :
    validateOpen o localID localAS remoteAS = none ↔ Spec.AcceptableOpen o ⟨localID, localAS, remoteAS⟩ := by
  have := Lemmas.validateOpen_spec o localID localAS remoteAS
  unfold Spec.AcceptableOpen
  cases hv : validateOpen o localID localAS remoteAS with
  | none => rw [hv] at this; exact ⟨fun _ => this, fun _ => rfl⟩
  | some n =>
    rw [hv] at this
    obtain ⟨c, s, d, hm, _⟩ := this
    exact ⟨fun h => (nomatch h), fun h => by rw [h] at hm; cases hm⟩

/-- the single NOTIFICATION `validate` returns names a fault that is present in the OPEN, with
the data the property requires (`00 04` for the version; the 4-octet-AS capability for
subcode 7) -/
theorem validate_sound (o : OpenMsg) (localID localAS remoteAS : UInt32) (n : Notif)
    (h : validateOpen o localID localAS remoteAS = some n) :
    Spec.faultApplies n (Spec.openSemFaults o ⟨localID, localAS, remoteAS⟩) = true := by
  have := Lemmas.validateOpen_spec o localID localAS remoteAS
  rw [h] at this
  obtain ⟨c, s, d, hm, rfl⟩ := this
  exact Lemmas.faultApplies_of_mem _ _ _ _ d hm rfl rfl (fun d' hd' => by rw [hd']; rfl)

/-- the capabilities handed to the plugin are exactly those carried, in wire order, byte-exact -/
theorem caps_exact (o : OpenMsg) : openCaps o = Spec.caps o := rfl

-- non-vacuity: an acceptable OPEN and an unacceptable one
example : Spec.AcceptableOpen ⟨4, 65001, 90, 0x0a000002, [[⟨65, [0, 0, 253, 233]⟩]]⟩ ⟨0x0a000001, 65000, 65001⟩ := by decide
example : ¬ Spec.AcceptableOpen ⟨4, 65001, 2, 0x0a000002, [[⟨65, [0, 0, 253, 233]⟩]]⟩ ⟨0x0a000001, 65000, 65001⟩ := by decide

end CoreBGP.Props.C02
