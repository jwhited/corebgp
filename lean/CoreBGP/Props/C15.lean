import CoreBGP.Model.Packet
import CoreBGP.Spec.Wire
import CoreBGP.Lemmas.Packet
/-!
# C15 — OPEN / NOTIFICATION / capability codecs round-trip and are strict

The lemmas about the loops and the grammar are in `CoreBGP.Lemmas.Packet`. Model = transcription of
`packet.go`; Spec = RFC 4271 §4.2/§4.5, RFC 5492, RFC 7911, RFC 4760.
-/
namespace CoreBGP.Props.C15
open CoreBGP CoreBGP.Model

/-- decoding a NOTIFICATION body is the inverse of encoding it, for every code, subcode and
data of any length -/
theorem notif_rt (n : Notif) : decodeNotif (encodeNotifBody n) = .ok n := by
  cases n with
  | mk c s d => cases d <;> simp [encodeNotifBody, decodeNotif]

/-- every byte string the NOTIFICATION decoder accepts re-encodes to itself -/
theorem notif_tr (b : Bytes) (n : Notif) (h : decodeNotif b = .ok n) : encodeNotifBody n = b := by
  match b, h with
  | c :: s :: rest, h =>
    simp [decodeNotif] at h
    subst h
    cases rest <;> simp [encodeNotifBody]

/-- the decoder rejects (with an error, not a partial value) exactly the byte strings that lack
the two fixed octets -/
theorem notif_strict (b : Bytes) : (∃ n, decodeNotif b = .ok n) ↔ 2 ≤ b.length := by
  match b with
  | [] => simp [decodeNotif]
  | [_] => simp [decodeNotif]
  | c :: s :: rest => simp [decodeNotif]

/-- the model's encoder is the RFC 4271 §4.5 layout -/
theorem notif_body_spec (n : Notif) : encodeNotifBody n = Spec.notifBody n :=
  Lemmas.encodeNotifBody_eq n

/-- a NOTIFICATION reaches the wire as marker, true length, type 3, code, subcode, data — for
every data length that fits a message (0..4075) -/
theorem notif_wire (n : Notif) (h : n.data.length ≤ 4075) :
    encodeNotif n = Spec.frame 3 (Spec.notifBody n) :=
  Lemmas.notif_wire n h

example : decodeNotif (encodeNotifBody ⟨5, 3, [1]⟩) = .ok ⟨5, 3, [1]⟩ := by decide

/-- the OPEN decoder accepts exactly the byte strings the RFC grammar accepts, with exactly the
RFC's reading of them -/
theorem open_decode_iff (b : Bytes) (o : OpenMsg) :
    decodeOpen b = .ok o ↔ Spec.parseOpen b = some o := by
  rcases Lemmas.decodeOpen_cases b with ⟨o', h1, h2⟩ | ⟨n, h1, h2, _⟩
  · rw [h1, h2]
    constructor
    · intro h; cases h; rfl
    · intro h; cases h; rfl
  · rw [h1, h2]
    constructor
    · intro h; cases h
    · intro h; cases h

/-- the OPEN decoder never indexes out of bounds, for byte strings of every length (the 8-bit
`paramLen+2` / `capLen+2` cannot wrap inside an OPEN because Opt Parm Len bounds the block) -/
theorem open_decode_no_panic (b : Bytes) : decodeOpen b ≠ .panic :=
  Lemmas.decodeOpen_no_panic b

/-- a refused OPEN is refused with a `notificationError` that is to be sent and that names a
structural fault actually present in the body -/
theorem open_decode_err (b : Bytes) (e : PErr) (h : decodeOpen b = .err e) :
    ∃ n, e = .notif n true ∧ (n.code.toNat, n.sub.toNat) ∈ Spec.openStructFaults b := by
  rcases Lemmas.decodeOpen_cases b with ⟨o', h1, _⟩ | ⟨n, h1, _, h3⟩
  · rw [h1] at h; cases h
  · rw [h1] at h; cases h; exact ⟨n, rfl, h3⟩

/-- spec-level round trip: the wire form of a representable OPEN parses back to it -/
theorem open_spec_rt (o : OpenMsg) (h : Spec.Representable o) : Spec.parseOpen (Spec.openBody o) = some o :=
  (Lemmas.parseOpen_eq_some_iff _ o).2 ⟨h, rfl⟩

/-- spec-level strictness: whatever parses is representable and re-encodes to the same bytes -/
theorem open_spec_tr (b : Bytes) (o : OpenMsg) (h : Spec.parseOpen b = some o) :
    Spec.Representable o ∧ Spec.openBody o = b :=
  (Lemmas.parseOpen_eq_some_iff b o).1 h

/-- the encoder produces the RFC wire form for every representable OPEN -/
theorem open_encode (o : OpenMsg) (h : Spec.Representable o) :
    encodeOpenBody o = some (Spec.openBody o) := by
  obtain ⟨_, h1, h2⟩ := (Lemmas.representable_iff o).1 h
  exact Lemmas.encodeOpenBody_ok o h1 h2

/-- decode ∘ encode = id on representable OPENs -/
theorem open_rt (o : OpenMsg) (h : Spec.Representable o) :
    ∃ b, encodeOpenBody o = some b ∧ decodeOpen b = .ok o :=
  ⟨_, open_encode o h, (open_decode_iff _ _).2 (open_spec_rt o h)⟩

/-- accepted byte strings re-encode to themselves; in particular acceptance implies that the
fixed fields are present and every nested length octet agrees with the bytes that follow -/
theorem open_tr (b : Bytes) (o : OpenMsg) (h : decodeOpen b = .ok o) :
    encodeOpenBody o = some b := by
  have hs := (open_decode_iff b o).1 h
  have ⟨hr, hb⟩ := open_spec_tr b o hs
  rw [← hb]; exact open_encode o hr

example : Spec.Representable ⟨4, 65001, 90, 1, [[⟨65, [0, 0, 253, 233]⟩, ⟨1, [0, 1, 0, 1]⟩], [⟨2, []⟩]]⟩ := by decide

/-- `DecodeAddPathTuples` accepts exactly non-empty sequences of AFI(2) SAFI(1) Send/Receive ∈
{1,2,3} and reads them as RFC 7911 says -/
theorem addpath_decode_iff (b : Bytes) (ts : List AddPathTuple) :
    decodeAddPathTuples b = .ok ts ↔ Spec.parseAddPathCap b = some ts := by
  unfold decodeAddPathTuples Spec.parseAddPathCap
  by_cases hb : b = []
  · subst hb; simp [openErr0]
  · have hl : b.length ≠ 0 := fun h => hb (List.eq_nil_of_length_eq_zero h)
    rw [if_neg hb, Lemmas.decodeAddPathLoop_eq]
    cases hp : Spec.parseAddPath b with
    | none => simp [openErr0]
    | some ts' =>
      have := Lemmas.parseAddPath_len b ts' hp
      rw [if_neg (by simp [hl]; omega)]
      simp

/-- add-path tuples round-trip for send/receive values 1–3 -/
theorem addpath_rt (ts : List AddPathTuple) (hne : ts ≠ []) (hv : ∀ t ∈ ts, t.tx = true ∨ t.rx = true) :
    decodeAddPathTuples (newAddPathCapability ts).value = .ok ts := by
  apply (addpath_decode_iff _ _).2
  unfold Spec.parseAddPathCap newAddPathCapability
  rw [if_neg, Lemmas.parseAddPath_encode ts hv]
  cases ts with
  | nil => exact absurd rfl hne
  | cons t ts => simp [encodeAddPathTuple, be16Bytes]

/-- the add-path capability is code 69 with the RFC 7911 tuple encoding -/
theorem addpath_encode (ts : List AddPathTuple) (ws : List Bytes) (h : ts.mapM Spec.addPathWire = some ws) :
    newAddPathCapability ts = ⟨69, ws.flatten⟩ := by
  unfold newAddPathCapability
  simp only [Gen.CAP_ADD_PATH, Cap.mk.injEq, true_and]
  induction ts generalizing ws with
  | nil => simp at h; subst h; rfl
  | cons t ts ih =>
    cases h1 : Spec.addPathWire t with
    | none => simp [h1] at h
    | some w =>
      cases h2 : ts.mapM Spec.addPathWire with
      | none => simp [h1, h2] at h
      | some ws' =>
        simp [h1, h2] at h
        subst h
        simp only [List.map_cons, List.flatten_cons, ih ws' h2]
        congr 1
        obtain ⟨afi, safi, tx, rx⟩ := t
        cases tx <;> cases rx <;> simp [Spec.addPathWire, encodeAddPathTuple, be16Bytes, Spec.u16] at h1 ⊢ <;> exact h1

/-- the multiprotocol capability is AFI(2) reserved(1)=0 SAFI(1), code 1 -/
theorem mp_cap (afi : UInt16) (safi : UInt8) :
    newMPExtensionsCapability afi safi = ⟨1, Spec.mpCapWire afi safi⟩ := by
  simp [newMPExtensionsCapability, Spec.mpCapWire, Gen.CAP_MP_EXTENSIONS, be16Bytes, Spec.u16]

end CoreBGP.Props.C15
