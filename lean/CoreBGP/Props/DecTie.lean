import CoreBGP.Model.GoExpr
import CoreBGP.Model.Peer
import CoreBGP.Model.Server
import CoreBGP.Lemmas.DecTie
/-!
# Decision logic: the model decides what the translated Go conditions decide

`Gen.decisions` is regenerated from the Go AST on every run (conditions of `if`, cases of `switch`,
boolean assignments and returns of the peer manager, the registry / admission code and the
configuration validators). Each theorem below evaluates the relevant Go conditions — in the control
structure of the Go function, which is written out in the statement — under an environment that reads
the leaves off an arbitrary model state, and states that the result is the model's decision.
They hold for every state / configuration; a changed condition in the code breaks them whether or not a
scenario exercises it.

The shared definitions are here; the theorems are in `Props.DecTieC07/C08/C11/C12/C13/C20`, one module per property,
so that a changed decision is reported for the property it belongs to.
-/
namespace CoreBGP.Props.DecTie
open CoreBGP CoreBGP.Model CoreBGP.Gen CoreBGP.Lemmas.DecTie


def rankI (s : St) : Int := (s.rank.toNat : Int)

/-- the state constants as the environment sees them -/
def stateConsts : List (String × Int) :=
  [("disabledState", rankI .disabled), ("idleState", rankI .idle), ("connectState", rankI .connect),
   ("activeState", rankI .active), ("openSentState", rankI .openSent), ("openConfirmState", rankI .openConfirm),
   ("establishedState", rankI .established), ("nil", 0), ("out", 0), ("in", 1), ("0", 0)]

def dirI : Dir → Int | .out => 0 | .inn => 1

theorem rankI_beq (a b : St) : (rankI a == rankI b) = decide (a = b) := by
  cases a <;> cases b <;> decide
theorem rankI_lt (a b : St) : rankI a < rankI b ↔ a.rank < b.rank := by
  cases a <;> cases b <;> decide
theorem dirI_in (i : Dir) : (dirI i == 1) = decide (i = .inn) := by cases i <;> rfl
theorem dirI_out (i : Dir) : (dirI i == 0) = decide (i = .out) := by cases i <;> rfl

end CoreBGP.Props.DecTie
