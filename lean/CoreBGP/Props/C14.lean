import CoreBGP.Model.Packet
import CoreBGP.Spec.Wire
import CoreBGP.Lemmas.Packet
/-!
# C14 — the OPEN corebgp sends reflects configuration and plugin capabilities
-/
namespace CoreBGP.Props.C14
open CoreBGP CoreBGP.Model

/-- `newOpenMessage` builds exactly the OPEN value the property describes: version 4, AS or
AS_TRANS, hold time, router id, one capabilities parameter = 4-octet-AS capability for the local
AS followed by the plugin's capabilities minus any 4-octet-AS capability of its own -/
theorem new_open_eq (asn : UInt32) (hold : UInt16) (id : UInt32) (caps : List Cap) :
    newOpenMessage asn hold id caps = Spec.expectedOpen ⟨asn, hold, id⟩ caps := by
  unfold newOpenMessage Spec.expectedOpen fourOctetASCap
  simp only [Gen.asTrans, Gen.CAP_FOUR_OCTET_AS, Lemmas.be32Bytes_eq]
  congr 4
  funext c
  by_cases h : c.code = 65 <;> simp [bne, h]

/-- if the capabilities can be represented, the bytes put on the wire are the RFC wire form of
that OPEN — every length octet (message, optional parameters, parameter, capability) equal to
the length of what follows -/
theorem open_wire (asn : UInt32) (hold : UInt16) (id : UInt32) (caps : List Cap)
    (h : Spec.Representable (Spec.expectedOpen ⟨asn, hold, id⟩ caps)) :
    encodeOpen (newOpenMessage asn hold id caps)
      = some (Spec.frame 1 (Spec.openBody (Spec.expectedOpen ⟨asn, hold, id⟩ caps))) := by
  rw [new_open_eq]
  obtain ⟨_, h1, h2⟩ := (Lemmas.representable_iff _).1 h
  unfold encodeOpen
  rw [Lemmas.encodeOpenBody_ok _ h1 h2, Option.map_some, Lemmas.prependHeader_frame_lt]
  · rfl
  · rw [Lemmas.openBody_length]; omega

/-- … and those bytes parse back, under the RFC grammar, to exactly that OPEN -/
theorem open_wire_parses (asn : UInt32) (hold : UInt16) (id : UInt32) (caps : List Cap)
    (h : Spec.Representable (Spec.expectedOpen ⟨asn, hold, id⟩ caps)) :
    Spec.parseOpen (Spec.openBody (Spec.expectedOpen ⟨asn, hold, id⟩ caps))
      = some (Spec.expectedOpen ⟨asn, hold, id⟩ caps) :=
  (Lemmas.parseOpen_eq_some_iff _ _).2 ⟨h, rfl⟩

/-- if they cannot be represented (a value above 255 bytes, or more than fits one parameter),
encoding fails and nothing is written (`sendOpenAndSetHoldTimer` closes the connection) -/
theorem open_unrepresentable (asn : UInt32) (hold : UInt16) (id : UInt32) (caps : List Cap)
    (h : ¬ Spec.Representable (Spec.expectedOpen ⟨asn, hold, id⟩ caps)) :
    encodeOpen (newOpenMessage asn hold id caps) = none := by
  rw [new_open_eq]
  unfold encodeOpen
  rw [Lemmas.encodeOpenBody_bad, Option.map_none]
  intro hok
  apply h
  apply (Lemmas.representable_iff _).2
  exact ⟨by simp [Spec.expectedOpen], hok.1, hok.2⟩

example : Spec.Representable (Spec.expectedOpen ⟨70000, 90, 1⟩ [⟨1, [0, 1, 0, 1]⟩, ⟨65, [1, 2, 3, 4]⟩]) := by decide

end CoreBGP.Props.C14
