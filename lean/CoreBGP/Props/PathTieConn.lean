import CoreBGP.Props.PathTie
/-! Path tie for the life cycle of one connection inside an FSM (`sendOpenAndSetHoldTimer`, `startReading`,
`cleanupConnAndReader` of `fsm.go`), on the regenerated control paths. Listed under C05 / C10 (nothing is left behind, nothing
wedges on a later connection of the same FSM) and C14 (one OPEN per connection, built from one call of `GetCapabilities`). -/
namespace CoreBGP.Props.PathTieConn
open CoreBGP CoreBGP.Model CoreBGP.Gen CoreBGP.Props.PathTie

/-- entering OpenSent: `GetCapabilities` is asked once, the OPEN is built from it, encoded and handed to the connection in
ONE `Write`; only after the write succeeded is the (large) hold timer created and the reader started; if building,
encoding or writing fails the connection is closed, nothing is started, and the FSM goes to Idle -/
theorem open_sent_paths :
    (∀ p ∈ pathsOf "sendOpenAndSetHoldTimer", p.ret = ["openSentState"] →
      p.calls = ["f.peer.plugin.GetCapabilities", "newOpenMessage", "o.encode", "f.conn.Write(b)", "time.NewTimer(longHoldTime)",
                 "set f.holdTimer=time.NewTimer(longHoldTime)", "f.startReading"] ∧ p.guards.all (·.2 == false) = true) ∧
    (∀ p ∈ pathsOf "sendOpenAndSetHoldTimer", p.ret ≠ ["openSentState"] →
      p.ret = ["idleState"] ∧ p.calls.getLast? = some "f.conn.Close" ∧ p.calls.contains "f.startReading" = false ∧
      p.calls.contains "set f.holdTimer=time.NewTimer(longHoldTime)" = false) ∧
    (∀ p ∈ pathsOf "sendOpenAndSetHoldTimer",
      (p.calls.filter (· == "f.peer.plugin.GetCapabilities")).length = 1 ∧ (p.calls.filter (· == "f.conn.Write(b)")).length ≤ 1) ∧
    (pathsOf "sendOpenAndSetHoldTimer").any (fun p => p.ret == ["openSentState"]) = true := by
  decide +kernel

/-- every connection gets its own reader: `startReading` makes fresh channels and re-arms the close-once guard before it
starts the goroutine (what one connection left behind cannot reach the next one of the same FSM) -/
theorem start_reading_rearms :
    (pathsOf "startReading").map (·.calls) =
      [["make", "set f.closeReaderCh=make(chanstruct{})", "set f.closeReaderOnce=sync.Once{}", "make",
        "set f.readerDoneCh=make(chanstruct{})", "make", "set f.readerErrCh=make(chanerror)", "make",
        "set f.readerMsgCh=make(chanmessage)", "go"]] := by
  decide +kernel

/-- teardown: the connection is closed if there is one; if a reader was ever started it is told to stop (once) and joined
(`<-f.readerDoneCh`) before `cleanupConnAndReader` returns -/
theorem cleanup_joins_reader :
    (∀ p ∈ pathsOf "cleanupConnAndReader", p.guards.contains ("f.conn!=nil", true) = true → p.calls.head? = some "f.conn.Close") ∧
    (∀ p ∈ pathsOf "cleanupConnAndReader", p.guards.contains ("f.conn!=nil", false) = true → p.calls.contains "f.conn.Close" = false) ∧
    (∀ p ∈ pathsOf "cleanupConnAndReader", p.guards.contains ("f.closeReaderCh==nil", false) = true →
      (p.calls.drop (p.calls.length - 2)) = ["f.closeReaderOnce.Do", "recv f.readerDoneCh"]) ∧
    (∀ p ∈ pathsOf "cleanupConnAndReader", p.guards.contains ("f.closeReaderCh==nil", true) = true →
      p.calls.contains "recv f.readerDoneCh" = false) ∧
    (pathsOf "cleanupConnAndReader").length = 4 := by
  decide +kernel

end CoreBGP.Props.PathTieConn
