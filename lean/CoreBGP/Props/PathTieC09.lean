import CoreBGP.Props.PathTie
/-! Path tie of C09 (see `Props.PathTie` for the method): the statements about the regenerated control paths of
`fsm.go` in the scope `c09`. -/
namespace CoreBGP.Props.PathTieC09
open CoreBGP CoreBGP.Model CoreBGP.Gen CoreBGP.Props.PathTie

theorem scope_ok : scopeOK .c09 = true := by decide +kernel

/-- the L1 model does what the code's paths do, for every input whose class is in this scope -/
theorem react_follows_code (cfg : SessCfg) (ph : Phase) (inp : Input) (ret : Option Notif) (c : ICls)
    (hph : ph ∈ phases) (hc : clsOf cfg ph inp ret = some c) (hs : scopeOfCls ph c = .c09) :
    selected (fnName ph) (envOfCls c) ≠ [] ∧
    ∀ p ∈ selected (fnName ph) (envOfCls c),
      pathVis (envOfCls c) p = actsVis (react cfg ph inp ret).2 ∧
      pathExit (wrappedOf c) p = actsExit (react cfg ph inp ret).2 :=
  follows_of_shapeOK .c09 (scopeOK_iff.mp scope_ok).1 cfg ph inp ret c hph hc hs

/-- every path of the code in this scope is a path of the model -/
theorem every_path_modelled : scopeComplete .c09 = true := (scopeOK_iff.mp scope_ok).2.1

/-- nothing outside the known vocabulary is called on a path of this scope -/
theorem calls_known : scopeCallsKnown .c09 = true := (scopeOK_iff.mp scope_ok).2.2

example : (classesOf .c09).length > 0 := by decide

/-- the helper: it writes the NOTIFICATION exactly for a `notificationError` that is to be sent -/
theorem handle_notification_in_err :
    (selected "handleNotificationInErr" (fun g => if g = "errors.As(err,&nerr)&&nerr.out" then some true else none)).map
        (fun p => p.calls.flatMap visOfCall) = [[.sendNotif]] ∧
    (selected "handleNotificationInErr" (fun g => if g = "errors.As(err,&nerr)&&nerr.out" then some false else none)).map
        (fun p => p.calls.flatMap visOfCall) = [[]] := by
  decide +kernel

end CoreBGP.Props.PathTieC09
