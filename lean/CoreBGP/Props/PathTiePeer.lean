import CoreBGP.Props.PathTie
import CoreBGP.Model.Peer
import CoreBGP.Model.Server
import CoreBGP.Lemmas.DecTie
/-! Path tie for the peer manager's helpers (`peer.go`: `handleStateTransition`, `handleError`, `enableFSM`, `disableFSM`,
`sendTransitionToFSM`, `start`, `stop`) on the regenerated control paths: the instruction lists of the L2 model
(`Model.expandHandle`) against what every path of `handleStateTransition` does, for every manager state, direction and
transition; and what the helpers that the model takes as single instructions consist of. Listed under C01, C07, C11, C12, C13. -/
namespace CoreBGP.Props.PathTiePeer
open CoreBGP CoreBGP.Model CoreBGP.Gen CoreBGP.Lemmas.DecTie CoreBGP.Props.PathTie

/-- an instruction of the L2 model, arguments dropped -/
inductive IS where
  | disable | send | enable | collSel
deriving DecidableEq, Repr, Inhabited

def isOfInstr : Instr → Option IS
  | .disableLog _ => some .disable
  | .sendT _ _ => some .send
  | .enable _ _ => some .enable
  | .collSel _ _ => some .collSel
  | _ => none

def domGuard : String := "(dominant&&i==out)||(!dominant&&i==in)"

/-- a path of `handleStateTransition` as model instructions: the collision `select` (all its cases) is ONE instruction of the
model (`collSel`, whose outcomes are `Model.Peer`'s); otherwise the helper calls in order -/
def pathIS (p : CodePath) : List IS :=
  if p.guards.contains (domGuard, true) then [.collSel]
  else p.calls.filterMap fun c =>
    if c = "p.disableFSM" then some IS.disable else if c = "p.sendTransitionToFSM" then some .send
    else if c = "p.enableFSM" then some .enable else none

/-- the guards of `handleStateTransition`, read off a manager state, a direction and a transition -/
def envHandle (s : PState) (i : Dir) (t : Trans) : GEnv := fun g =>
  if g = "case t.to==establishedState" then some (t.to == .established)
  else if g = "case i==in&&t.to<t.from" then some (i == .inn && decide (t.to.rank < t.frm.rank))
  else if g = "case t.to==openConfirmState" then some (t.to == .openConfirm)
  else if g = "case p.fsmState[other(i)]==establishedState" then some (s.st i.other == .established)
  else if g = "case p.fsmState[other(i)]==openConfirmState" then some (s.st i.other == .openConfirm)
  else if g = domGuard then some ((s.dominant && i == .out) || (!s.dominant && i == .inn))
  else none

/-- the finitely many facts the guards look at -/
structure HCls where
  toEst : Bool
  inDown : Bool
  toOC : Bool
  otherEst : Bool
  otherOC : Bool
  dom : Bool
deriving DecidableEq, Repr, Inhabited

def envOfHCls (c : HCls) : GEnv := fun g =>
  if g = "case t.to==establishedState" then some c.toEst
  else if g = "case i==in&&t.to<t.from" then some c.inDown
  else if g = "case t.to==openConfirmState" then some c.toOC
  else if g = "case p.fsmState[other(i)]==establishedState" then some c.otherEst
  else if g = "case p.fsmState[other(i)]==openConfirmState" then some c.otherOC
  else if g = domGuard then some c.dom
  else none

def hclsOf (s : PState) (i : Dir) (t : Trans) : HCls :=
  { toEst := t.to == .established, inDown := i == .inn && decide (t.to.rank < t.frm.rank), toOC := t.to == .openConfirm,
    otherEst := s.st i.other == .established, otherOC := s.st i.other == .openConfirm,
    dom := (s.dominant && i == .out) || (!s.dominant && i == .inn) }

/-- `expandHandle` by class -/
def clsIS (c : HCls) : List IS :=
  if c.toEst then [.disable, .send]
  else if c.inDown then [.disable, .enable]
  else if c.toOC then
    (if c.otherEst then [.disable] else if c.otherOC then (if c.dom then [.collSel] else [.disable]) else [.send])
  else [.send]

def bools : List Bool := [false, true]
/-- a state is not two states at once -/
def HCls.consistent (c : HCls) : Bool := !(c.toEst && c.toOC) && !(c.otherEst && c.otherOC)

def allHCls : List HCls :=
  (bools.flatMap fun a => bools.flatMap fun b => bools.flatMap fun c => bools.flatMap fun d => bools.flatMap fun e => bools.map fun f =>
    ({ toEst := a, inDown := b, toOC := c, otherEst := d, otherOC := e, dom := f } : HCls)).filter HCls.consistent

theorem code_handle :
    ∀ c ∈ allHCls, (selected "peer.handleStateTransition" (envOfHCls c)).isEmpty = false ∧
      (selected "peer.handleStateTransition" (envOfHCls c)).all (fun p => pathIS p == clsIS c) = true := by
  decide +kernel

theorem envHandle_eq (s : PState) (i : Dir) (t : Trans) : envHandle s i t = envOfHCls (hclsOf s i t) := rfl

theorem mem_bools (b : Bool) : b ∈ bools := by cases b <;> decide

theorem mem_allHCls (c : HCls) (h : c.consistent = true) : c ∈ allHCls := by
  simp only [allHCls, List.mem_filter, List.mem_flatMap, List.mem_map]
  exact ⟨⟨_, mem_bools _, _, mem_bools _, _, mem_bools _, _, mem_bools _, _, mem_bools _, _, mem_bools _, rfl⟩, h⟩

theorem hclsOf_consistent (s : PState) (i : Dir) (t : Trans) : (hclsOf s i t).consistent = true := by
  simp only [HCls.consistent, hclsOf]
  cases t.to <;> cases s.st i.other <;> rfl

theorem expand_shape (s : PState) (i : Dir) (t : Trans) :
    (expandHandle s i t).filterMap isOfInstr = clsIS (hclsOf s i t) := by
  simp only [expandHandle_ite, clsIS, hclsOf, apply_ite (List.filterMap isOfInstr), List.filterMap_cons,
    List.filterMap_nil, isOfInstr]
  simp

/-- **the manager's reaction to a transition request is what the code's paths do**: for every manager state, direction and
requested transition, every control path of `handleStateTransition` that the guards — evaluated on that state — select does
exactly the instruction list of `Model.expandHandle` (the collision `select` as the one instruction `collSel`) -/
theorem expand_follows_code (s : PState) (i : Dir) (t : Trans) :
    selected "peer.handleStateTransition" (envHandle s i t) ≠ [] ∧
    ∀ p ∈ selected "peer.handleStateTransition" (envHandle s i t), pathIS p = (expandHandle s i t).filterMap isOfInstr := by
  rw [envHandle_eq, expand_shape]
  obtain ⟨hne, hall⟩ := selected_all (code_handle _ (mem_allHCls (hclsOf s i t) (hclsOf_consistent s i t)))
  exact ⟨hne, fun p hp => beq_iff_eq.mp (hall p hp)⟩

/-- `disableFSM`: nothing if the slot is empty; otherwise the FSM is stopped (joined) and BOTH records are cleared — the
slot and the state the collision logic looks at -/
theorem disable_fsm_paths :
    (selected "peer.disableFSM" (fun g => if g = "p.fsms[i]==nil" then some false else none)).map (·.calls) =
      [["p.logTransition", "p.fsms[i].stop", "set p.fsms[i]=nil", "set p.fsmState[i]=disabledState"]] ∧
    (selected "peer.disableFSM" (fun g => if g = "p.fsms[i]==nil" then some true else none)).map (·.calls) = [[]] := by
  decide +kernel

/-- `enableFSM`: never the outbound FSM of a passive peer, never a second FSM in an occupied slot; otherwise a fresh FSM is
created, recorded as `disabled`, and started -/
theorem enable_fsm_paths :
    (∀ p ∈ pathsOf "peer.enableFSM", p.guards.contains ("i==out&&p.options.passive", true) = true → p.calls = []) ∧
    (∀ p ∈ pathsOf "peer.enableFSM", p.guards.contains ("p.fsms[i]==nil", false) = true → p.calls = []) ∧
    (∀ p ∈ pathsOf "peer.enableFSM", p.guards.contains ("p.fsms[i]==nil", true) = true →
      p.calls = ["newFSM", "set p.fsms[i]=newFSM(p,i,conn)", "set p.fsmState[i]=disabledState", "p.fsms[i].start"]) := by
  decide +kernel

/-- `handleError`: exactly the errors that damp (`errors.As && dampPeer()`, `DecTieC12.damping`) stop both FSMs, advance the
back-off and start the hold-down; any other error changes nothing here -/
theorem handle_error_paths :
    (∀ p ∈ pathsOf "peer.handleError", p.guards.contains ("nerr.dampPeer()", true) = true →
      p.calls.drop (p.calls.length - 4) = ["p.disableFSM", "p.disableFSM", "p.updateStartupDelay", "set p.inHoldDown=true"]) ∧
    (∀ p ∈ pathsOf "peer.handleError", p.guards.contains ("nerr.dampPeer()", true) = false →
      p.calls.all (fun c => c != "p.disableFSM" && c != "p.updateStartupDelay" && c != "set p.inHoldDown=true") = true) := by
  decide +kernel

/-- an error that does not damp leaves the peer's damping state alone altogether (no timestamp, no delay, no hold-down) -/
theorem non_damping_touches_nothing :
    ∀ p ∈ pathsOf "peer.handleError", p.guards.contains ("nerr.dampPeer()", true) = false →
      p.calls.all (fun c => c == "logf" || c == "errors.As" || c == "nerr.dampPeer") = true := by
  decide +kernel

def amnesiaGuard : String := "p.lastProtoError!=nil&&(time.Since(*p.lastProtoError)>=errorAmnesiaTime)"

/-- an assignment to `p.startupDelay` -/
inductive DS where
  | zero | minTime | double
deriving DecidableEq, Repr, Inhabited

/-- the assignments to `p.startupDelay` on a path, in order -/
def delaySets (p : CodePath) : List DS :=
  p.calls.filterMap fun c =>
    if c = "set p.startupDelay=0" then some DS.zero
    else if c = "set p.startupDelay=errorDelayMinTime" then some .minTime
    else if c = "set p.startupDelay=min(2*p.startupDelay,errorDelayMaxTime)" then some .double
    else none

def applyDS (d : Nat) : List DS → Nat
  | [] => d
  | .zero :: r => applyDS 0 r
  | .minTime :: r => applyDS Gen.errorDelayMinTime r
  | .double :: r => applyDS (min (2 * d) Gen.errorDelayMaxTime) r

def applyDelaySets (d : Nat) (p : CodePath) : Nat := applyDS d (delaySets p)

def envDelay (amnesia positive : Bool) : GEnv := fun g =>
  if g = amnesiaGuard then some amnesia else if g = "p.startupDelay>0" then some positive else none

def expectedSets (amnesia positive : Bool) : List DS :=
  (if amnesia then [DS.zero] else []) ++ [if positive then DS.double else DS.minTime]

theorem code_delay_sets :
    ∀ a ∈ bools, ∀ pos ∈ bools,
      (selected "peer.updateStartupDelay" (envDelay a pos)).isEmpty = false ∧
      (selected "peer.updateStartupDelay" (envDelay a pos)).all (fun p => delaySets p == expectedSets a pos) = true := by
  decide +kernel

/-- **the back-off step is what the code's paths assign**: for every current delay and every time since the last protocol
error, every control path of `updateStartupDelay` selected by the two conditions (the second evaluated on the delay as the
first left it) assigns, in order, exactly the model's next delay -/
theorem startup_delay_follows_code (d : Nat) (gap : Option Nat) :
    let amnesia := match gap with | some g => decide (g ≥ Gen.errorAmnesiaTime) | none => false
    let d₁ := if amnesia then 0 else d
    selected "peer.updateStartupDelay" (envDelay amnesia (decide (d₁ > 0))) ≠ [] ∧
    ∀ p ∈ selected "peer.updateStartupDelay" (envDelay amnesia (decide (d₁ > 0))),
      applyDelaySets d p = Model.updateStartupDelay d gap := by
  intro amnesia d₁
  obtain ⟨hne, hall⟩ := selected_all (code_delay_sets amnesia (mem_bools _) (decide (d₁ > 0)) (mem_bools _))
  refine ⟨hne, fun p hp => ?_⟩
  rw [applyDelaySets, beq_iff_eq.mp (hall p hp)]
  cases gap with
  | none =>
    simp only [amnesia, d₁, expectedSets, Model.updateStartupDelay]
    by_cases hd : d > 0 <;> simp [hd, applyDS]
  | some g =>
    simp only [amnesia, d₁, expectedSets, Model.updateStartupDelay]
    by_cases hg : g ≥ Gen.errorAmnesiaTime
    · simp [hg, applyDS]
    · by_cases hd : d > 0 <;> simp [hg, hd, applyDS]

theorem startup_delay_bookkeeping :
    ∀ p ∈ pathsOf "peer.updateStartupDelay",
      p.calls.contains "set p.lastProtoError=&lastProtoError" = true ∧
      p.calls.drop (p.calls.length - 4) =
        ["p.startupDelayTimer.Stop", "time.NewTimer(p.startupDelay)", "set p.startupDelayTimer=time.NewTimer(p.startupDelay)", "logf"] := by
  decide +kernel

/-- `sendTransitionToFSM` can always be abandoned for the manager's own stop; `peer.stop` closes once and joins the manager -/
theorem send_and_stop_paths :
    (pathsOf "peer.sendTransitionToFSM").map (·.guards) = [[("select recv p.closeCh", true)], [("select send p.transitionCh[i]", true)]] ∧
    (pathsOf "peer.stop").map (·.calls) = [["p.closeOnce.Do", "recv p.doneCh"]] := by
  decide +kernel

end CoreBGP.Props.PathTiePeer
