import CoreBGP.Props.PathTie
import CoreBGP.Model.Server
/-! Path tie of C13 (see `Props.PathTie` for the method): `Server.handleInboundConn` on the regenerated control paths against
`Model.Server.admit`. -/
namespace CoreBGP.Props.PathTieC13
open CoreBGP CoreBGP.Model CoreBGP.Gen CoreBGP.Props.PathTie

/-- the facts the guards of `handleInboundConn` look at (the remote address of an accepted connection always parses) -/
structure ACls where
  known : Bool        -- a peer is configured for the source address
  hasLocal : Bool     -- that peer has a local address configured
  mismatch : Bool     -- the destination of the connection is not that address (or does not parse)
deriving DecidableEq, Repr, Inhabited

def envOfACls (c : ACls) : GEnv := fun g =>
  if g = "net.SplitHostPort()!=nil" then some false
  else if g = "!exists" then some (!c.known)
  else if g = "p.options.localAddress.IsValid()" then some c.hasLocal
  else if g = "err!=nil||p.options.localAddress!=laddr" then some c.mismatch
  else none

def admitted (c : ACls) : Bool := c.known && (!c.hasLocal || !c.mismatch)

def bools : List Bool := [false, true]
def allACls : List ACls := bools.flatMap fun a => bools.flatMap fun b => bools.map fun c => ({ known := a, hasLocal := b, mismatch := c } : ACls)

/-- the code side: for every combination of the facts a path is selected; every selected path either hands the connection to
the peer manager (once) or closes it (once) — never both, never neither —, hands it over exactly when `admitted`, writes nothing
to it, and releases the server's lock if it took it -/
theorem code_admission :
    ∀ c ∈ allACls, (selected "server.handleInboundConn" (envOfACls c)).isEmpty = false ∧
      (selected "server.handleInboundConn" (envOfACls c)).all (fun p =>
        p.calls.contains "p.incomingConnection" == admitted c && p.calls.contains "conn.Close" == !admitted c &&
        (p.calls.filter (· == "p.incomingConnection")).length == (if admitted c then 1 else 0) &&
        (p.calls.filter (· == "conn.Close")).length == (if admitted c then 0 else 1) &&
        p.calls.all (fun x => x != "conn.Write" && x != "f.conn.Write(b)") &&
        (p.calls.contains "s.mu.Lock" == p.calls.contains "deferred s.mu.Unlock()")) = true := by
  decide +kernel

/-- a connection whose remote address does not parse is closed without looking at the registry -/
theorem unparsable_source_closed :
    ∀ p ∈ pathsOf "server.handleInboundConn", p.guards.contains ("net.SplitHostPort()!=nil", true) = true →
      p.calls = ["net.SplitHostPort", "conn.Close"] := by
  decide +kernel

/-- the class of a connection for a registry state -/
def aclsOf (s : Server) (src dst : Addr) : ACls :=
  match s.lookup src with
  | none => { known := false, hasLocal := false, mismatch := false }
  | some c => { known := true, hasLocal := c.localAddr.isValid, mismatch := decide (c.localAddr ≠ dst) }

theorem mem_allACls (c : ACls) : c ∈ allACls := by
  rcases c with ⟨a, b, c⟩; cases a <;> cases b <;> cases c <;> decide

theorem admit_shape (s : Server) (src dst : Addr) : (s.admit src dst).isSome = admitted (aclsOf s src dst) := by
  unfold Server.admit aclsOf admitted
  cases h : s.lookup src with
  | none => simp
  | some c =>
    by_cases hv : c.localAddr.isValid = true <;> by_cases hd : c.localAddr = dst <;> simp [hv, hd]

/-- **admission is what the code's paths do**: for every registry state, source and destination, every control path of
`handleInboundConn` selected by the facts of that connection hands it to the peer manager exactly when `Model.Server.admit`
admits it, and closes it — silently: nothing is written — exactly when it does not -/
theorem admit_follows_code (s : Server) (src dst : Addr) :
    selected "server.handleInboundConn" (envOfACls (aclsOf s src dst)) ≠ [] ∧
    ∀ p ∈ selected "server.handleInboundConn" (envOfACls (aclsOf s src dst)),
      (p.calls.contains "p.incomingConnection" = (s.admit src dst).isSome) ∧
      (p.calls.contains "conn.Close" = !(s.admit src dst).isSome) := by
  obtain ⟨hne, hall⟩ := selected_all (code_admission _ (mem_allACls (aclsOf s src dst)))
  refine ⟨hne, fun p hp => ?_⟩
  have h := hall p hp
  simp only [Bool.and_eq_true, beq_iff_eq] at h
  rw [admit_shape]
  exact ⟨h.1.1.1.1.1, h.1.1.1.1.2⟩

end CoreBGP.Props.PathTieC13
