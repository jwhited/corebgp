import CoreBGP.Props.DecTie
/-! Decision ties of C11 (see `Props.DecTie` for the method). -/
namespace CoreBGP.Props.DecTieC11
open CoreBGP CoreBGP.Model CoreBGP.Gen CoreBGP.Lemmas.DecTie CoreBGP.Props.DecTie

/-- the generated table, evaluated (a changed guard of `enableFSM` / `disableFSM` is reported here) -/
private theorem d_slot :
    decision "peer.enableFSM" "if" 0 = .and (.cmp "==" "i" "out") (.atom "p.options.passive") ∧
    decision "peer.enableFSM" "if" 1 = .cmp "==" "p.fsms[i]" "nil" ∧
    decision "peer.disableFSM" "if" 0 = .cmp "==" "p.fsms[i]" "nil" := by decide +kernel


def slotEnv (s : PState) (i : Dir) : Env :=
  envOf (stateConsts ++ [("i", dirI i), ("p.options.passive", b2i s.passive), ("p.fsms[i]", b2i (s.present i))])

/-- Go `enableFSM`: `if i == out && passive { return }; if p.fsms[i] == nil { create and start }` -/
theorem enable_out_unless_passive (s : PState) (i : Dir) (w : Bool) (rest : List Instr) :
    let ρ := slotEnv s i
    let skip := BExp.eval ρ (decision "peer.enableFSM" "if" 0) || !BExp.eval ρ (decision "peer.enableFSM" "if" 1)
    (skip = true → pInstr s (.enable i w) rest = [(.tau, { s with todo := rest })]) ∧
    (skip = false → ∃ s', pInstr s (.enable i w) rest = [(.tau, s')] ∧ s'.present i = true) := by
  intro ρ skip
  have hskip : skip = (decide (i = .out) && s.passive || s.present i) := by
    simp only [skip, ρ, d_slot, slotEnv, stateConsts, List.cons_append, List.nil_append, envOf_cons, String.reduceEq,
      ↓reduceIte, eval_and, eval_eq, eval_atom, b2i_ne_zero, b2i_eq_zero, dirI_out, Bool.not_not]
  rw [hskip]
  constructor
  · intro h
    have hc : (i = .out ∧ s.passive = true) ∨ s.present i = true := by simpa using h
    simp only [pInstr, if_pos hc]
  · intro h
    have hc : ¬ ((i = .out ∧ s.passive = true) ∨ s.present i = true) := by
      intro hc
      have : (decide (i = .out) && s.passive || s.present i) = true := by simpa using hc
      rw [h] at this; exact Bool.false_ne_true this
    simp only [pInstr, if_neg hc]
    exact ⟨_, rfl, by cases i <;> rfl⟩

/-- Go `disableFSM`: `if p.fsms[i] == nil { return }` -/
theorem disable_absent_is_noop (s : PState) (i : Dir) (rest : List Instr) :
    BExp.eval (slotEnv s i) (decision "peer.disableFSM" "if" 0) = true →
    pInstr s (.disableLog i) rest = [(.tau, { s with todo := rest })] := by
  simp only [d_slot, slotEnv, stateConsts, List.cons_append, List.nil_append, envOf_cons, String.reduceEq, ↓reduceIte,
    eval_eq, b2i_eq_zero]
  intro h
  simp only [pInstr, if_pos h]

end CoreBGP.Props.DecTieC11
