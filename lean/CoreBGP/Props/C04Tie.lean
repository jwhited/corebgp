import CoreBGP.Gen.Selects
/-!
# C04 — tie of the keepalive-manager / WriteUpdate protocol model (`Model.Writer`) to the code

The model's blocking points are exactly the `select`s and unconditional channel operations the
regenerated inventory shows for `WriteUpdate`, the keepalive-manager closure and `established`:
a changed `select` there re-opens the model (this theorem stops checking).
-/
namespace CoreBGP.Props.C04Tie
open CoreBGP

def casesOf (fn : String) : List (List String) := (Gen.selects.filter (·.fn = fn)).map (·.cases)
def bareOf (fn : String) : List String := (Gen.bareChanOps.filter (·.fn = fn)).flatMap (·.cases)

/-- `WriteUpdate`: a non-blocking check of the writer's close channel, then (after the write) a
`select` between that close channel and the send to the keepalive manager -/
theorem write_update_selects :
    casesOf "updateMessageWriter.WriteUpdate" = [["default", "recv u.closeCh"], ["recv u.closeCh", "send u.resetKATimerCh"]] := by decide +kernel

/-- the keepalive manager: one `select` between its close channel and the reset requests -/
theorem manager_select : casesOf "fsm.established$1" = [["recv closeKAManagerCh", "recv resetKATimerCh"]] := by decide +kernel

/-- the FSM's own reset request is an unconditional send inside the loop, and `established` waits for
the manager before it tears the connection down -/
theorem fsm_ops :
    bareOf "fsm.established$2" = ["send resetKATimerCh"] ∧ bareOf "fsm.established" = ["recv kaManagerDoneCh"] := by decide +kernel

end CoreBGP.Props.C04Tie
