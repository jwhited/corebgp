import CoreBGP.Props.C12
/-!
# C12 — histories that mix protocol errors with Ceases and transport faults

`Model.errHistory` is what the real `handleError` is compared with on every run (L0 `errhist`, through the
`VerifErrorHistory` hook). Here: it is the specified recurrence over the protocol errors alone — a Cease or a transport
fault neither starts a hold-down, nor advances the ladder, nor restarts the 300 s of amnesia — for every history.
-/
namespace CoreBGP.Props.C12Hist
open CoreBGP CoreBGP.Model

/-- the specification: E.7 over the damping events; `since` = time since the last one -/
def specHist : Nat → Option Nat → List (ErrKind × Nat) → List Nat
  | _, _, [] => []
  | prev, since, (k, g) :: rest =>
    let since' := since.map (· + g)
    match k with
    | .damp => let d := Spec.nextDelay prev since'; d :: specHist d (some 0) rest
    | _ => 0 :: specHist prev since' rest

theorem hist_spec_gen (h : List (ErrKind × Nat)) (d : Nat) (since : Option Nat) (hs : since = none → d = 0) :
    delaysHist d since h = specHist d since h := by
  induction h generalizing d since with
  | nil => rfl
  | cons e rest ih =>
    obtain ⟨k, g⟩ := e
    have hs' : since.map (· + g) = none → d = 0 := fun hn => hs (Option.map_eq_none_iff.1 hn)
    cases k <;> simp only [delaysHist, specHist]
    case damp => rw [Lemmas.Server.usd_eq_nextDelay d _ hs', ih _ (some 0) nofun]
    all_goals rw [ih d _ hs']

/-- the model's history function is the specified one, for every history -/
theorem hist_spec (h : List (ErrKind × Nat)) : errHistory h = specHist 0 none h :=
  hist_spec_gen h 0 none (fun _ => rfl)

private theorem cease_like_io_gen (h : List (ErrKind × Nat)) (d : Nat) (since : Option Nat) :
    delaysHist d since (h.map fun e => (if e.1 = .cease then ErrKind.io else e.1, e.2)) =
      delaysHist d since h := by
  induction h generalizing d since with
  | nil => rfl
  | cons e rest ih =>
    obtain ⟨k, g⟩ := e
    cases k <;> simp [delaysHist, ih]

private theorem non_damping_zero_gen (h : List (ErrKind × Nat)) (i : Nat) (k : ErrKind) (g : Nat)
    (d : Nat) (since : Option Nat)
    (hi : h[i]? = some (k, g)) (hk : k ≠ .damp) : (delaysHist d since h)[i]? = some 0 := by
  induction h generalizing i d since with
  | nil => simp at hi
  | cons e rest ih =>
    obtain ⟨k', g'⟩ := e
    cases i with
    | zero =>
      simp only [List.getElem?_cons_zero, Option.some.injEq, Prod.mk.injEq] at hi
      obtain ⟨rfl, rfl⟩ := hi
      cases k' with
      | damp => exact absurd rfl hk
      | _ => rfl
    | succ j =>
      simp only [List.getElem?_cons_succ] at hi
      cases k' <;> simp only [delaysHist, List.getElem?_cons_succ] <;> exact ih j _ _ hi

/-- a Cease and a transport fault are interchangeable: neither is looked at beyond "not a protocol error" -/
theorem cease_like_io (h : List (ErrKind × Nat)) :
    errHistory (h.map fun e => (if e.1 = .cease then ErrKind.io else e.1, e.2)) = errHistory h :=
  cease_like_io_gen h 0 none

/-- no hold-down after a Cease or a transport fault: the entry of such an event is 0 -/
theorem non_damping_zero (h : List (ErrKind × Nat)) (i : Nat) (k : ErrKind) (g : Nat)
    (hi : h[i]? = some (k, g)) (hk : k ≠ .damp) : (errHistory h)[i]? = some 0 :=
  non_damping_zero_gen h i k g 0 none hi hk

end CoreBGP.Props.C12Hist
