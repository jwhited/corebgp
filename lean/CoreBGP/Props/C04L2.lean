import CoreBGP.Model.Writer
/-!
# C04 (goroutine half) — `WriteUpdate` never deadlocks, from any goroutine, including from inside
`OnEstablished` and the update handler; and the session's teardown is never blocked by writers

Over all reachable states of the E / K / W₁…Wₙ protocol, for every number of writer goroutines.
-/
namespace CoreBGP.Props.C04L2
open CoreBGP CoreBGP.Model

def Ctl (s : WState) : Prop :=
  (s.k = .done → s.closed = true) ∧
  (s.closed = true ↔ (s.e = .exited ∨ s.e = .done)) ∧
  (s.e = .done → s.k = .done)

theorem step_cases {s s' : WState} (h : s' ∈ wnext s) :
    (s'.ws = s.ws ∧ (Ctl s → Ctl s')) ∨
    ∃ j w wr, s' = { s with ws := s.ws.set j w, wrote := wr } ∧
      (s.ws.getD j .idle = .idle → s.closed = false) := by
  simp only [wnext, List.mem_append, List.mem_flatMap, List.mem_range] at h
  rcases h with (h | h) | ⟨j, -, h⟩
  · -- E: of its nine transitions only `loop → exited` touches `closed` (and sets it), and only
    -- `exited → done` ends E (and waits for K)
    left
    split at h
    all_goals simp only [List.mem_cons, List.not_mem_nil, or_false, List.mem_ite_nil_right] at h
    · rcases h with rfl | rfl | rfl <;> simp_all [Ctl]
    · obtain ⟨-, rfl⟩ := h; simp_all [Ctl]
    · rcases h with rfl | rfl <;> simp_all [Ctl]
    · subst h; simp_all [Ctl]
    · obtain ⟨-, rfl⟩ := h; simp_all [Ctl]
    · obtain ⟨hk, rfl⟩ := h; simp_all [Ctl]
  · left
    simp only [List.mem_ite_nil_right, List.mem_singleton, Bool.and_eq_true, decide_eq_true_eq] at h
    obtain ⟨⟨-, hc⟩, rfl⟩ := h
    exact ⟨rfl, fun ⟨_, h3, _⟩ => ⟨fun _ => hc, h3, fun _ => rfl⟩⟩
  · right
    split at h
    all_goals simp only [List.mem_append, List.mem_singleton, List.mem_ite_nil_right, List.mem_ite_nil_left,
      Bool.not_eq_true] at h
    · exact ⟨j, _, _, h.2, fun _ => h.1⟩
    · next hw => exact ⟨j, _, _, h, fun hi => nomatch hi.symm.trans hw⟩
    · next hw => rcases h with h | h <;> exact ⟨j, _, _, h.2, fun hi => nomatch hi.symm.trans hw⟩

theorem inv_reach {n : Nat} {s : WState} (h : WReach n s) : s.ws.length = n ∧ Ctl s := by
  induction h with
  | init => simp [wInit, Ctl]
  | step _ hs ih =>
    rcases step_cases hs with ⟨hws, hc⟩ | ⟨j, w, wr, rfl, -⟩
    · exact ⟨hws ▸ ih.1, hc ih.2⟩
    · exact ⟨(List.length_set ..).trans ih.1, ih.2⟩

/-- the keepalive manager is alive exactly as long as the close channels are open — so whoever sends
on `resetKATimerCh` while they are open finds a receiver -/
theorem manager_alive (n : Nat) (s : WState) (h : WReach n s) :
    (s.k = .done → s.closed = true) ∧
    (s.closed = true ↔ (s.e = .exited ∨ s.e = .done)) ∧ s.ws.length = n :=
  have ⟨h1, h2, h3, _⟩ := inv_reach h
  ⟨h2, h3, h1⟩

/-- E is never stuck at its own sends: at the keepalive reset and inside a callback's `WriteUpdate`
the rendezvous with K is enabled -/
theorem fsm_send_enabled (n : Nat) (s : WState) (h : WReach n s)
    (he : s.e = .sendReset ∨ s.e = .inCallback .written) : s.k = .select_ := by
  obtain ⟨_, h2, h3, _⟩ := inv_reach h
  cases hk : s.k with
  | select_ => rfl
  | done => rcases h3.1 (h2 hk) with h' | h' <;> rcases he with he | he <;> cases he.symm.trans h'

/-- an external writer that has written is never stuck: either K is receiving or the writer's close
channel is closed — its `select` has an enabled case in every reachable state -/
theorem writer_never_stuck (n : Nat) (s : WState) (h : WReach n s) (j : Nat) (hj : j < s.ws.length)
    (hw : s.ws.getD j .idle = .written) : s.k = .select_ ∨ s.closed = true := by
  have _ := hj
  have _ := hw
  cases hk : s.k with
  | select_ => exact .inl rfl
  | done => exact .inr ((inv_reach h).2.1 hk)

/-- the join is never blocked: once E has left its loop K can always finish, whatever the writers do -/
theorem join_enabled (n : Nat) (s : WState) (h : WReach n s) (he : s.e = .exited) :
    s.k = .done ∨ ({ s with k := .done } ∈ wnext s) := by
  cases hk : s.k with
  | done => exact .inl rfl
  | select_ =>
    refine .inr (List.mem_append_left _ (List.mem_append_right _ ?_))
    simp [hk, (inv_reach h).2.2.1.2 (.inl he)]

/-- no deadlock: in every reachable state in which something is still to be done (E not done, or a
writer inside a call) some step is enabled -/
theorem no_deadlock (n : Nat) (s : WState) (h : WReach n s)
    (hbusy : s.e ≠ .done ∨ ∃ j, j < s.ws.length ∧ s.ws.getD j .idle ≠ .idle) : wnext s ≠ [] := by
  have hsend := fsm_send_enabled n s h
  obtain ⟨_, h2, h3, h4⟩ := inv_reach h
  simp only [wnext, ne_eq, List.append_eq_nil_iff, List.flatMap_eq_nil_iff, List.mem_range]
  -- E has a step unless it waits for K (then K has one) or is done (then every busy writer has one)
  rintro ⟨⟨hE, hK⟩, hW⟩
  split at hE
  · cases hE
  · simp [hsend (.inl ‹_›)] at hE
  · cases hE
  · cases hE
  · simp [hsend (.inr ‹_›)] at hE
  · next he =>
    have hc := h3.2 (.inl he)
    cases hk : s.k <;> simp [hk, hc] at hE hK
  · next he =>
    obtain ⟨j, hj, hw⟩ := hbusy.resolve_left (absurd he)
    have := hW j hj
    split at this
    · contradiction
    · cases this
    · simp [h3.2 (.inr he)] at this

/-- after the session has ended a new `WriteUpdate` call does not start (it returns the error at the
non-blocking check) and nothing more reaches the wire from calls that start afterwards: `wrote` only
grows through calls that passed the check before the close -/
theorem no_write_starts_after_close (n : Nat) (s s' : WState) (h : WReach n s) (hc : s.closed = true)
    (hs : s' ∈ wnext s) : ∀ j, s.ws.getD j .idle = .idle → s'.ws.getD j .idle = .idle := by
  have _ := h
  intro j hj
  rcases step_cases hs with ⟨hws, -⟩ | ⟨j', w, wr, rfl, hidle⟩
  · rwa [hws]
  · have hne : j' ≠ j := fun e => by simp [hidle (e ▸ hj)] at hc
    rwa [List.getD_eq_getElem?_getD, List.getElem?_set_ne hne, ← List.getD_eq_getElem?_getD]

example : (wnext (wInit 2)).length = 5 := by decide

end CoreBGP.Props.C04L2
