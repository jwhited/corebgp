import CoreBGP.Model.Session
import CoreBGP.Spec.Session
import CoreBGP.Lemmas.Reader
import CoreBGP.Lemmas.Session
/-!
# C03 — inbound UPDATEs reach the handler exactly once, in order, byte-exact

The reader model is a function of the byte stream alone (segmentation-free by construction; that
the Go reader is too is exercised by the live engine with random partitions into TCP writes), so
delivery is: stream ↦ `readAll` ↦ `runSession`. "Between OnEstablished's return and OnClose" is
C01's history theorem; "the delivered slice is not modified afterwards" is Go aliasing, which a
pure model cannot express — the model records that `messageFromBytes` copies, the harness's
aliasing monitor is the evidence for that clause (partial).
-/
namespace CoreBGP.Props.C03
open CoreBGP CoreBGP.Model

def handlerCalls : List Act → List Bytes
  | [] => []
  | .handler b :: rest => b :: handlerCalls rest
  | _ :: rest => handlerCalls rest

def updBody : RMsg → Option Bytes
  | .update b => some b
  | _ => none

def isKaOrUpdate : RMsg → Bool
  | .update _ | .keepalive => true
  | _ => false

theorem handlerCalls_append (a b : List Act) : handlerCalls (a ++ b) = handlerCalls a ++ handlerCalls b := by
  induction a with
  | nil => rfl
  | cons x xs ih => cases x <;> simp [handlerCalls, ih]

/-- for every sequence of UPDATEs and KEEPALIVEs handed over by the reader, with a handler that
returns nil, the handler is called with exactly the UPDATE bodies, in order, each once -/
theorem delivery (cfg : SessCfg) (ms : List RMsg) (h : ∀ m ∈ ms, isKaOrUpdate m = true) :
    handlerCalls (runSession cfg .established (ms.map fun m => (.msg m, none))) = ms.filterMap updBody := by
  induction ms with
  | nil => rfl
  | cons m ms ih =>
    have hm := h m (List.mem_cons_self ..)
    have ih' := ih (fun x hx => h x (List.mem_cons_of_mem _ hx))
    cases m with
    | update b => simp [runSession, react, handlerCalls, updBody, ih']
    | keepalive => simp [runSession, react, ih', List.filterMap_cons, updBody]
    | open_ o => simp [isKaOrUpdate] at hm
    | notif n => simp [isKaOrUpdate] at hm

/-- once the session is closed nothing is delivered any more -/
theorem closed_delivers_nothing (cfg : SessCfg) (inputs : List (Input × Option Notif)) :
    runSession cfg .closed inputs = [] := by
  induction inputs with
  | nil => rfl
  | cons i rest ih => simp [runSession, react, ih]

/-- if the handler returns a NOTIFICATION for an UPDATE, that NOTIFICATION is sent verbatim, the
session ends (close, OnClose) and no later UPDATE of that connection is delivered -/
theorem handler_veto (cfg : SessCfg) (b : Bytes) (n : Notif) (later : List (Input × Option Notif)) :
    runSession cfg .established ((.msg (.update b), some n) :: later) =
      [.handler b, .send (encodeNotif n), .close, .onClose, .report .idle (some (.sent n.code))] := by
  simp [runSession, react, teardown, closed_delivers_nothing]

/-- end to end over the byte stream: a stream made of whole UPDATE messages (bodies of any length
0..4077) and KEEPALIVEs, however it is segmented, delivers exactly the UPDATE bodies in wire order -/
theorem stream_delivery (cfg : SessCfg) (ms : List (UInt8 × Bytes))
    (hms : ∀ m ∈ ms, (m.1 = 2 ∧ m.2.length ≤ 4077) ∨ (m.1 = 4 ∧ m.2 = [])) :
    handlerCalls (runSession cfg .established
        (((readAll (ms.map fun m => Spec.frame m.1 m.2).flatten).1).map fun m => (.msg m, none)))
      = ms.filterMap fun m => if m.1 = 2 then some m.2 else none := by
  rw [Lemmas.readAll_kaOrUpdate ms hms]
  have hk : ∀ m ∈ ms.map Lemmas.kaOrUpdate, isKaOrUpdate m = true := by
    intro m hm
    obtain ⟨x, _, rfl⟩ := List.mem_map.1 hm
    unfold Lemmas.kaOrUpdate
    split <;> rfl
  rw [delivery cfg _ hk, List.filterMap_map]
  congr 1
  funext m
  simp only [Function.comp, Lemmas.kaOrUpdate]
  split <;> rfl

example : handlerCalls (runSession ⟨1, 1, 2, 90⟩ .established
    [(.msg (.update [1]), none), (.msg .keepalive, none), (.msg (.update []), none)]) = [[1], []] := by decide

end CoreBGP.Props.C03
