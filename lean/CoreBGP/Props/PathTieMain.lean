import CoreBGP.Props.PathTiePeer
import CoreBGP.Lemmas.PeerStep
/-! Path tie for the peer manager's main loop (`peer.go`: `peer.run`, `incomingConnection`) on the regenerated control
paths: every case of the main `select` of the L2 model (`Model.pMain`) against what every path of `peer.run` that the
case and the manager state select does — which helper, with which direction, in which order; the deferred part on the
way out; the admission decision on an inbound connection (hold-down, occupied inbound slot, outbound FSM Established).
Listed under C01, C07, C10, C11, C12, C13. -/
namespace CoreBGP.Props.PathTieMain
open CoreBGP CoreBGP.Model CoreBGP.Gen CoreBGP.Lemmas CoreBGP.Props.PathTie CoreBGP.Props.PathTiePeer

/-- a case of the main `select` -/
inductive MSel where
  | close | timer | err (i : Dir) | trans (i : Dir) | inConn
deriving DecidableEq, Repr, Inhabited

def allMSel : List MSel := [.close, .timer, .err .inn, .err .out, .trans .inn, .trans .out, .inConn]

/-- what a step of the main loop consists of, arguments that the model keeps included -/
inductive RI where
  | disable (i : Dir) | stopTimer | closeDone | enable (i : Dir) (withConn : Bool) | clearHoldDown
  | handleErr (i : Dir) | handle (i : Dir) | connClose | unknown
deriving DecidableEq, Repr, Inhabited

/-- a statement-level effect of `peer.run` as a step of the model; anything the model does not know is `unknown` (and
agrees with nothing) -/
def riOfCall (c : String) : Option RI :=
  if c = "deferred p.disableFSM(out)" then some (.disable .out)
  else if c = "deferred p.disableFSM(in)" then some (.disable .inn)
  else if c = "deferred p.startupDelayTimer.Stop()" then some .stopTimer
  else if c = "deferred close(p.doneCh)" then some .closeDone
  else if c = "p.enableFSM(out,nil)" then some (.enable .out false)
  else if c = "p.enableFSM(in,conn)" then some (.enable .inn true)
  else if c = "set p.inHoldDown=false" then some .clearHoldDown
  else if c = "p.handleError(in,err)" then some (.handleErr .inn)
  else if c = "p.handleError(out,err)" then some (.handleErr .out)
  else if c = "p.handleStateTransition(in,t)" then some (.handle .inn)
  else if c = "p.handleStateTransition(out,t)" then some (.handle .out)
  else if c = "conn.Close" then some .connClose
  else if c = "logf" then none
  else some .unknown

def pathRI (p : CodePath) : List RI := p.calls.filterMap riOfCall

def selName : MSel → String
  | .close => "select recv p.closeCh"
  | .timer => "select recv p.startupDelayTimer.C"
  | .err .inn => "select recv p.errorCh[in]"
  | .err .out => "select recv p.errorCh[out]"
  | .trans .inn => "select recv p.transitionCh[in]"
  | .trans .out => "select recv p.transitionCh[out]"
  | .inConn => "select recv p.inConnCh"

def selGuards : List String := allMSel.map selName

def occupiedGuard : String := "p.fsms[in]!=nil||p.fsmState[out]==establishedState"

/-- the guards of `peer.run`, read off the `select` case taken and the three facts the admission decision looks at; a
guard that is not listed here is left open, so that a path behind a new condition is selected too and has to agree -/
def envRun (c : MSel) (holdDown presentI outEst : Bool) : GEnv := fun g =>
  if selGuards.contains g then some (g == selName c)
  else if g = "p.inHoldDown" then some holdDown
  else if g = occupiedGuard then some (presentI || outEst)
  else none

/-- the model's step by `select` case -/
def clsRI (c : MSel) (refuse : Bool) : List RI :=
  match c with
  | .close => [.disable .out, .disable .inn, .stopTimer, .closeDone]
  | .timer => [.enable .out false, .clearHoldDown]
  | .err i => [.handleErr i]
  | .trans i => [.handle i]
  | .inConn => if refuse then [.connClose] else [.enable .inn true]

def clsExit (c : MSel) : String := if c = .close then "return" else "loop"

/-- the code side: each case and each value of the three facts selects at least one path, and every selected path does the
model's step and goes on as the model does (back to the `select`, or out through the deferred part) -/
theorem code_main_select :
    ∀ c ∈ allMSel, ∀ hd ∈ bools, ∀ pi ∈ bools, ∀ oe ∈ bools,
      (selected "peer.run" (envRun c hd pi oe)).isEmpty = false ∧
      (selected "peer.run" (envRun c hd pi oe)).all
        (fun p => pathRI p == clsRI c (hd || pi || oe) && p.exit == clsExit c) = true := by
  decide +kernel

/-- nothing happens between the entry of `peer.run` and its loop -/
theorem main_prologue : (prologueOf "peer.run").map (·.calls) = [[]] := by decide +kernel

/-- every path of `peer.run` is the step of some case of the model -/
theorem every_main_path_modelled :
    ∀ p ∈ pathsOf "peer.run", ∃ c ∈ allMSel, ∃ hd ∈ bools, ∃ pi ∈ bools, ∃ oe ∈ bools,
      pathSat (envRun c hd pi oe) p = true := by
  decide +kernel

/-- the model's step at the main `select`, read off a manager state -/
def modelRI (s : PState) (c : MSel) : List RI :=
  clsRI c (s.holdDown || s.presentI || s.stO == .established)

def envOfState (s : PState) (c : MSel) : GEnv := envRun c s.holdDown s.presentI (s.stO == .established)

theorem mem_allMSel (c : MSel) : c ∈ allMSel := by
  cases c with
  | err i => cases i <;> simp [allMSel]
  | trans i => cases i <;> simp [allMSel]
  | _ => simp [allMSel]

/-- **the main loop of the model is what the code's paths do**: for every manager state and every case of the `select`,
the case and the state select at least one control path of `peer.run`, and every selected path performs exactly the model's
step — the same helpers with the same direction in the same order — and continues where the model continues -/
theorem main_follows_code (s : PState) (c : MSel) :
    selected "peer.run" (envOfState s c) ≠ [] ∧
    ∀ p ∈ selected "peer.run" (envOfState s c), pathRI p = modelRI s c ∧ p.exit = clsExit c := by
  obtain ⟨hne, hall⟩ := selected_all (code_main_select c (mem_allMSel c) s.holdDown (mem_bools _) s.presentI
    (mem_bools _) (s.stO == .established) (mem_bools _))
  refine ⟨hne, fun p hp => ?_⟩
  have h := hall p hp
  simp only [Bool.and_eq_true, beq_iff_eq] at h
  exact ⟨by unfold modelRI; rw [h.1, Bool.or_assoc], h.2⟩

/-- an instruction of `pMain`'s continuation as steps of the loop body -/
def instrRI : Instr → List RI
  | .disableLog i => [.disable i]
  | .finish => [.stopTimer, .closeDone]
  | .enable i c => [.enable i c]
  | .handle i _ => [.handle i]
  | _ => []

/-- a step of `pMain` belongs to a case of the `select`, is enabled as that case is in the code (channel closed, timer armed,
an FSM offering a transition / an error, a connection handed over), and continues with the step of that case: the
instruction list, the fields written on the spot (`inHoldDown`, the timer), the refusal of the connection. `handleError` is
inlined in the model (its head is `logErr`; the rest is tied by `PathTiePeer.handle_error_paths`). -/
def stepMatches (s : PState) (c : MSel) (ls : Label × PState) : Bool :=
  match c with
  | .close => s.pclosed && ls.2.todo.flatMap instrRI ++ [] == modelRI s .close
  | .timer => s.timerArmed && ls.1 == .logUndamp && !ls.2.holdDown && !ls.2.timerArmed &&
      ls.2.todo.flatMap instrRI ++ [.clearHoldDown] == modelRI s .timer
  | .err i => (match (s.f i).pc with | .errSend _ _ _ => true | _ => false) && ls.2.todo.head? == some (.logErr i)
  | .trans i => (match (s.f i).pc with | .req t => ls.2.todo == [.handle i t] | _ => false) &&
      ls.2.todo.flatMap instrRI == modelRI s (.trans i)
  | .inConn => ls.2.todo.flatMap instrRI ++ (if ls.1 == .inConn false then [.connClose] else []) == modelRI s .inConn &&
      ls.2.holdDown == s.holdDown

/-- **every step of the model's main `select` is a case of the code's** -/
theorem pMain_steps_are_cases (s : PState) (h0 : s.todo = []) : ∀ ls ∈ pMain s, ∃ c, stepMatches s c ls = true := by
  rintro ⟨l, s'⟩ hls
  cases (MainStep.of_mem hls).2 with
  | stop hc => exact ⟨.close, by simp [stepMatches, modelRI, clsRI, instrRI, hc]⟩
  | req i t hpc => exact ⟨.trans i, by cases i <;> simp [stepMatches, modelRI, clsRI, instrRI, hpc]⟩
  | err i st d k hpc => exact ⟨.err i, by cases i <;> simp [stepMatches, hpc]⟩
  | timer ha => exact ⟨.timer, by simp [stepMatches, modelRI, clsRI, instrRI, ha]⟩
  | refuse hc =>
    have hr : (s.holdDown || s.presentI || s.stO == .established) = true := hc
    exact ⟨.inConn, by simp [stepMatches, modelRI, clsRI, hr, h0]⟩
  | accept hc =>
    have hr : (s.holdDown || s.presentI || s.stO == .established) = false := hc
    exact ⟨.inConn, by simp [stepMatches, modelRI, clsRI, instrRI, hr]⟩

/-- … and an inbound connection is always taken by the manager at its `select` (admitted or closed): the case is never
disabled while the manager runs -/
theorem inConn_always_served (s : PState) (h : s.pdone = false) (h0 : s.todo = []) :
    ∃ ls ∈ pMain s, stepMatches s .inConn ls = true ∧ (ls.1 = .inConn true ∨ ls.1 = .inConn false) := by
  cases hc : (s.holdDown || s.presentI || s.stO == .established)
  · exact ⟨_, MainStep.mem h (.accept hc), by simp [stepMatches, modelRI, clsRI, instrRI, hc], .inl rfl⟩
  · exact ⟨_, MainStep.mem h (.refuse hc), by simp [stepMatches, modelRI, clsRI, hc, h0], .inr rfl⟩

/-- `incomingConnection` (the server's hand-over): the connection goes to the manager, or is closed because the peer is
being stopped — never dropped open -/
theorem incoming_connection_paths :
    (pathsOf "peer.incomingConnection").map (fun p => (p.guards, p.calls, p.exit)) =
      [([("select recv p.closeCh", true)], ["conn.Close"], "return"),
       ([("select send p.inConnCh", true)], [], "return")] := by
  decide +kernel

/-- the hypotheses are met: a manager in hold-down with an Established outbound FSM refuses; an idle one admits -/
example : modelRI { holdDown := true } .inConn = [.connClose] ∧ modelRI {} .inConn = [.enable .inn true] ∧
    modelRI { stO := .established } .inConn = [.connClose] := by decide

end CoreBGP.Props.PathTieMain
