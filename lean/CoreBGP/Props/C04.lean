import CoreBGP.Model.Session
import CoreBGP.Spec.Wire
import CoreBGP.Lemmas.Reader
import CoreBGP.Lemmas.Session
/-!
# C04 — the outbound byte stream is whole well-formed messages; the WriteUpdate contract

Atomicity of one `net.Conn.Write` with respect to other writes on the same connection is Go's
(`netFD` write lock; trusted base): the model's unit of output is one `Act.send` = one `Write` of
one whole message. What is proved: every write corebgp issues is one whole well-formed message;
any concatenation of such writes parses back uniquely into exactly those messages; a
`WriteUpdate b` contributes exactly one UPDATE with body `b`, in call order; once the session has
ended nothing is written. (That a `WriteUpdate` from inside a callback cannot deadlock is an L2
statement about the keepalive-manager goroutine: `CoreBGP.Props.C04L2`.)
-/
namespace CoreBGP.Props.C04
open CoreBGP CoreBGP.Model

/-- a whole well-formed message: marker, true length within 19..4096, known type -/
def WellFormedMsg (b : Bytes) : Prop :=
  ∃ t body, b = Spec.frame t body ∧ Spec.knownType t = true ∧ body.length ≤ 4077

/-- any concatenation of well-formed messages parses back, uniquely, into exactly those messages
(so a reader that delimits by the length field alone sees exactly what was written) -/
theorem frames (ms : List (UInt8 × Bytes)) (h : ∀ m ∈ ms, Spec.knownType m.1 = true ∧ m.2.length ≤ 4077) :
    Spec.parseStream (ms.map fun m => Spec.frame m.1 m.2).flatten = (ms, .clean) := by
  unfold Spec.parseStream
  exact Lemmas.frames_concat ms _ h (Nat.lt_succ_of_le (Lemmas.frames_flatten_length ms))

-- the messages corebgp builds are well formed: KEEPALIVE, UPDATE (body ≤ 4077), NOTIFICATION
-- (data ≤ 4075), OPEN (whenever `encodeOpen` succeeds)
theorem keepalive_wf : WellFormedMsg kaBytes := by
  refine ⟨4, [], ?_, rfl, by simp⟩
  exact Lemmas.prependHeader_frame_lt [] _ (by decide)

theorem update_wf (b : Bytes) (h : b.length ≤ 4077) : WellFormedMsg (updateBytes b) := by
  refine ⟨2, b, ?_, rfl, h⟩
  exact Lemmas.prependHeader_frame_lt b _ (by omega)

theorem notif_wf (n : Notif) (h : n.data.length ≤ 4075) : WellFormedMsg (encodeNotif n) := by
  refine ⟨3, [n.code, n.sub] ++ n.data, Lemmas.notif_wire n h, rfl, ?_⟩
  simp only [List.length_append, List.length_cons, List.length_nil]
  omega

theorem open_wf (o : OpenMsg) (b : Bytes) (h : encodeOpen o = some b) : WellFormedMsg b := by
  unfold encodeOpen at h
  cases hb : encodeOpenBody o with
  | none => simp [hb] at h
  | some body =>
    have hl := Lemmas.encodeOpenBody_length o body hb
    simp only [hb, Option.map_some, Option.some.injEq] at h
    subst h
    exact ⟨1, body, Lemmas.prependHeader_frame_lt body _ (by omega), rfl, by omega⟩

/-- size bound on what the FSM sends of its own accord: the NOTIFICATIONs `validate` builds -/
theorem validate_notif_small (o : OpenMsg) (lid las ras : UInt32) (n : Notif)
    (h : validateOpen o lid las ras = some n) : n.data.length ≤ 6 :=
  Lemmas.validateOpen_data_small o lid las ras n h

def sends : List Act → List Bytes
  | [] => []
  | .send b :: rest => b :: sends rest
  | _ :: rest => sends rest

theorem mem_sends {b : Bytes} {acts : List Act} : b ∈ sends acts ↔ Act.send b ∈ acts := by
  induction acts with
  | nil => simp [sends]
  | cons a rest ih => cases a <;> simp [sends, ih]

/-- every write the session makes is one whole well-formed message — given that NOTIFICATIONs
handed in from outside the FSM (plugin return values, reader errors) carry at most 4075 data
bytes, and WriteUpdate bodies at most 4077 bytes (the property's quantifier) -/
theorem session_writes_wf (cfg : SessCfg) (ph : Phase) (inp : Input) (ret : Option Notif)
    (hret : ∀ n, ret = some n → n.data.length ≤ 4075)
    (hin : ∀ n out, inp = .readerErr (.notif n out) → n.data.length ≤ 4075)
    (hwu : ∀ b, inp = .writeUpdate b → b.length ≤ 4077) :
    ∀ b ∈ sends (react cfg ph inp ret).2, WellFormedMsg b := by
  intro b hb
  have hmem : Act.send b ∈ (react cfg ph inp ret).2 := mem_sends.1 hb
  rcases Lemmas.react_sends cfg ph inp ret b hmem with rfl | ⟨body, rfl, rfl⟩ | ⟨n, rfl, hn⟩
  · exact keepalive_wf
  · exact update_wf body (hwu body rfl)
  · apply notif_wf
    rcases hn with hn | hn | ⟨out, hn⟩
    · omega
    · exact hret n hn
    · exact hin n out hn

/-- each `WriteUpdate b` in Established contributes exactly one UPDATE whose body is `b`, and
nothing else -/
theorem write_update_once (cfg : SessCfg) (b : Bytes) (ret : Option Notif) :
    react cfg .established (.writeUpdate b) ret = (.established, [.send (updateBytes b)]) := by
  rfl

/-- once the session has ended, a write produces nothing (the Go writer returns an error) -/
theorem write_after_close (cfg : SessCfg) (b : Bytes) (ret : Option Notif) :
    react cfg .closed (.writeUpdate b) ret = (.closed, []) := by
  rfl

/-- call order = wire order: over any interleaving of inputs, the UPDATE bodies written (while
the session stays up) appear on the wire in the order of the `WriteUpdate` calls, each once -/
theorem write_order (cfg : SessCfg) (inputs : List (Input × Option Notif))
    (hup : ∀ i ∈ inputs, (∃ b, i.1 = .writeUpdate b) ∨ i.1 = .msg .keepalive ∨ i.1 = .kaTimer) :
    (sends (runSession cfg .established inputs)).filter (· ≠ kaBytes)
      = (inputs.filterMap fun i => match i.1 with | .writeUpdate b => some (updateBytes b) | _ => none) := by
  induction inputs with
  | nil => rfl
  | cons i rest ih =>
    obtain ⟨inp, r⟩ := i
    have ih' := ih (fun x hx => hup x (List.mem_cons_of_mem _ hx))
    rcases hup (inp, r) (List.mem_cons_self ..) with ⟨b, hb⟩ | hb | hb
    · simp only at hb
      subst hb
      simpa [runSession, react, sends, Lemmas.updateBytes_ne_kaBytes] using ih'
    · simp only at hb
      subst hb
      simpa [runSession, react, sends] using ih'
    · simp only at hb
      subst hb
      simpa [runSession, react, sends] using ih'

end CoreBGP.Props.C04
