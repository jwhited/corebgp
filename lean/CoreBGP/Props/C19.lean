import CoreBGP.Model.Update
import CoreBGP.Spec.Update
import CoreBGP.Lemmas.Attrs
/-!
# C19 — prefix, NLRI, add-path and MP_REACH / MP_UNREACH decoders are exact
-/
namespace CoreBGP.Props.C19
open CoreBGP CoreBGP.Model

/-- the decoded form of a wire prefix: address bits padded with zeros to 4 / 16 bytes
(`netip.PrefixFrom(addr, bits)`) -/
def pad (ipv6 : Bool) (q : Spec.Pfx) : Prefix :=
  ⟨UInt8.ofNat q.bits, q.addr ++ List.replicate ((if ipv6 then 16 else 4) - q.addr.length) 0⟩

def padAP (ipv6 : Bool) (q : Spec.Pfx) : AddPathPrefix :=
  ⟨UInt32.ofNat (q.id.getD 0), pad ipv6 q⟩

/-- the plain prefix-list decoder is the reference decoder: it returns exactly the sequence of
(length, address bits) that the field encodes, consuming the whole field, and fails exactly when a
length octet exceeds 32/128 or the field ends inside an entry -/
theorem prefixes_eq (ipv6 : Bool) (b : Bytes) :
    decodePrefixes b ipv6 = (Spec.parsePrefixField ipv6 false b).map (·.map (pad ipv6)) := by
  unfold decodePrefixes
  rw [Lemmas.prefixesLoop_spec ipv6 (b.length + 1) b [] b.length (by omega) (by omega)]
  rfl

/-- same for add-path prefix lists (4-octet path identifier first) -/
theorem addpath_prefixes_eq (ipv6 : Bool) (b : Bytes) :
    decodeAddPathPrefixes b ipv6 = (Spec.parsePrefixField ipv6 true b).map (·.map (padAP ipv6)) := by
  unfold decodeAddPathPrefixes
  rw [Lemmas.addPathLoop_spec ipv6 (b.length + 1) b [] b.length (by omega) (by omega)]
  rfl

/-- reference decoder ∘ reference encoder = id: nothing invented, dropped or reordered -/
theorem pfx_spec_rt (ipv6 addPath : Bool) (ps : List Spec.Pfx)
    (h : ∀ p ∈ ps, Spec.WellFormedPfx (if ipv6 then 128 else 32) addPath p) :
    Spec.parsePrefixField ipv6 addPath (ps.map Spec.pfxWire).flatten = some ps :=
  Lemmas.parsePfxs_rt _ (by cases ipv6 <;> simp) addPath ps _ h (Nat.le_refl _)

/-- whatever the reference decoder accepts re-encodes to the same bytes (whole field consumed) -/
theorem pfx_spec_tr (ipv6 addPath : Bool) (b : Bytes) (ps : List Spec.Pfx)
    (h : Spec.parsePrefixField ipv6 addPath b = some ps) :
    (ps.map Spec.pfxWire).flatten = b ∧ ∀ p ∈ ps, Spec.WellFormedPfx (if ipv6 then 128 else 32) addPath p :=
  Lemmas.parsePfxs_tr _ addPath _ b ps h

/-- the MP_REACH_NLRI splitter hands the closure exactly AFI, SAFI, the next `nhLen` bytes and
everything after the reserved octet, for every `nhLen` 0..255, joins the closure's error with the
flag error, and returns (3,5) without calling the closure when the attribute is too short -/
theorem mp_reach_split (flags : UInt8) (b : Bytes) (fn : MPReachArgs → Option Err) :
    mpReach flags b fn = .ok
      (match Spec.splitMPReach b with
       | some (afi, safi, nh, nlri) =>
         (some ⟨UInt16.ofNat afi, safi, nh, nlri⟩,
          joinErr (validateFlags flags 14 b true false) (fn ⟨UInt16.ofNat afi, safi, nh, nlri⟩))
       | none => (none, joinErr (validateFlags flags 14 b true false) (some (.notif ⟨3, 5, []⟩)))) :=
  Lemmas.mpReach_eq flags b fn

theorem mp_unreach_split (flags : UInt8) (b : Bytes) (fn : MPUnreachArgs → Option Err) :
    mpUnreach flags b fn =
      (match Spec.splitMPUnreach b with
       | some (afi, safi, w) =>
         (some ⟨UInt16.ofNat afi, safi, w⟩,
          joinErr (validateFlags flags 15 b true false) (fn ⟨UInt16.ofNat afi, safi, w⟩))
       | none => (none, joinErr (validateFlags flags 15 b true false) (some (.notif ⟨3, 5, []⟩)))) := by
  match b with
  | [] | [_] | [_, _] | _ :: _ :: _ :: _ => rfl

/-- IPv6 next hops succeed iff the length is 16 or 32 and then are exactly the bytes; otherwise a
session-reset-class error (a bare NOTIFICATION, UPDATE Message Error) -/
theorem mp_ipv6_nexthops (nh : Bytes) :
    (nh.length = 16 → decodeMPReachIPv6NextHops nh = .ok [nh]) ∧
    (nh.length = 32 → decodeMPReachIPv6NextHops nh = .ok [nh.take 16, nh.drop 16]) ∧
    (nh.length ≠ 16 ∧ nh.length ≠ 32 → decodeMPReachIPv6NextHops nh = .error (.notif ⟨3, 0, []⟩)) := by
  unfold decodeMPReachIPv6NextHops
  refine ⟨?_, ?_, ?_⟩
  · intro h
    simp [h]
  · intro h
    simp [h]
  · intro h
    rw [if_pos h]
    rfl

example : Spec.parsePrefixField false false [24, 10, 0, 1, 8, 10] = some [⟨none, 24, [10, 0, 1]⟩, ⟨none, 8, [10]⟩] := by decide
example : Spec.splitMPReach [0, 2, 1, 1, 9, 0, 7, 7] = some (2, 1, [9], [7, 7]) := by decide

end CoreBGP.Props.C19
