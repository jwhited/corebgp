import CoreBGP.Props.DecTie
import CoreBGP.Model.Lifecycle
/-! Decision ties of C20 (see `Props.DecTie` for the method). -/
namespace CoreBGP.Props.DecTieC20
open CoreBGP CoreBGP.Model CoreBGP.Gen CoreBGP.Lemmas.DecTie CoreBGP.Props.DecTie

/-- the generated table, evaluated (a changed condition of the validators is reported here) -/
private theorem d_validate :
    decision "peerOptions.validate" "if" 0 = .and (.cmp "<" "p.holdTime" "time.Second*3") (.cmp "!=" "p.holdTime" "0") ∧
    decision "peerOptions.validate" "if" 1 = .or (.cmp "<" "p.port" "1") (.cmp ">" "p.port" "65535") ∧
    decision "PeerConfig.validate" "if" 0 = .or (.cmp "==" "p.LocalAS" "0") (.cmp "==" "p.RemoteAS" "0") ∧
    decision "PeerConfig.validate" "if" 1 =
      .and (.not (.atom "opts.localAddress.IsValid()")) (.atom "p.RemoteAddress.IsValid()") ∧
    decision "PeerConfig.validate" "if" 2 = .cmp "!=" "localIsIPv4" "remoteIsIPv4" ∧
    decision "PeerConfig.validate" "if" 3 = .not (.atom "localIsIPv4") ∧
    decision "PeerConfig.validate" "if" 4 =
      .or (.not (.atom "opts.localAddress.Is6()")) (.not (.atom "p.RemoteAddress.Is6()")) := by decide +kernel


def optionsEnv (c : PeerCfg) : Env :=
  envOf [("p.holdTime", c.holdNs), ("time.Second*3", 3000000000), ("0", 0), ("p.port", c.port), ("1", 1), ("65535", 65535)]

/-- `peerOptions.validate`: an error iff one of the two conditions holds -/
theorem options_valid (c : PeerCfg) :
    validateOptions c =
      !(BExp.eval (optionsEnv c) (decision "peerOptions.validate" "if" 0) || BExp.eval (optionsEnv c) (decision "peerOptions.validate" "if" 1)) := by
  simp only [d_validate, optionsEnv, envOf_cons, String.reduceEq, ↓reduceIte, eval_and, eval_or, eval_lt, eval_gt,
    eval_ne, validateOptions, int_bne]
  simp

def configEnv (c : PeerCfg) : Env :=
  envOf [("0", 0), ("p.LocalAS", (c.localAS.toNat : Int)), ("p.RemoteAS", (c.remoteAS.toNat : Int)),
         ("opts.localAddress.IsValid()", b2i c.localAddr.isValid), ("p.RemoteAddress.IsValid()", b2i c.remote.isValid),
         ("localIsIPv4", b2i c.localAddr.is4), ("remoteIsIPv4", b2i c.remote.is4),
         ("opts.localAddress.Is6()", b2i c.localAddr.is6), ("p.RemoteAddress.Is6()", b2i c.remote.is6)]

/-- `PeerConfig.validate` in the control structure of the Go function -/
def goConfigValid (ρ : Env) : Bool :=
  let d := fun n => BExp.eval ρ (decision "PeerConfig.validate" "if" n)
  if d 0 then false
  else if d 1 then true
  else if d 2 then false
  else if d 3 then (if d 4 then false else true)
  else true

private theorem u32_beq_zero (a : UInt32) : ((a.toNat : Int) == 0) = decide (a = 0) := by
  simpa [← UInt32.toNat_inj] using natCast_beq a.toNat 0

theorem config_valid (c : PeerCfg) : validateConfig c = goConfigValid (configEnv c) := by
  simp only [goConfigValid, d_validate, configEnv, envOf_cons, String.reduceEq, ↓reduceIte, eval_and, eval_or, eval_not,
    eval_atom, eval_eq, eval_ne, b2i_ne_zero, b2i_bne, u32_beq_zero, validateConfig]
  generalize c.localAddr.isValid = lv
  generalize c.remote.isValid = rv
  generalize c.localAddr.is4 = l4
  generalize c.remote.is4 = r4
  generalize c.localAddr.is6 = l6
  generalize c.remote.is6 = r6
  generalize decide (c.localAS = 0) = z1
  generalize decide (c.remoteAS = 0) = z2
  revert lv rv l4 r4 l6 r6 z1 z2
  decide

open CoreBGP.Model.Lifecycle


private theorem d_life :
    decision "Server.AddPeer" "if" 2 = .atom "exists" ∧
    decision "Server.AddPeer" "if" 3 = .atom "s.serving" ∧
    decision "Server.DeletePeer" "if" 0 = .not (.atom "exists") ∧
    decision "Server.DeletePeer" "if" 1 = .atom "s.serving" ∧
    decision "Server.Close" "if" 0 = .not (.atom "s.serving") := by decide +kernel

def lifeEnv (s : LState) (k : Nat) : Env :=
  envOf [("exists", b2i (hasKey s k)), ("s.serving", b2i s.serving)]

/-- `AddPeer`: refused iff the key exists (`if exists`); otherwise the new peer is started iff `if s.serving` — on
nothing else, in particular not on whether `Close` has already signalled -/
theorem add_peer_decisions (s : LState) (k : Nat) :
    lstep s (.add k) =
      (if BExp.eval (lifeEnv s k) (decision "Server.AddPeer" "if" 2) then some s
       else some { s with peers := s.peers ++ [(k, BExp.eval (lifeEnv s k) (decision "Server.AddPeer" "if" 3))] }) := by
  simp only [d_life, eval_atom, lifeEnv, envOf_cons, String.reduceEq, ↓reduceIte, b2i_ne_zero, lstep]

/-- `DeletePeer`: `ErrPeerNotExist` iff `!exists`; otherwise the peer is removed (and stopped iff `s.serving`, the
same flag by which it was started: `C20Life.started_iff_serving`) -/
theorem delete_peer_decisions (s : LState) (k : Nat) :
    lstep s (.del k) =
      (if BExp.eval (lifeEnv s k) (decision "Server.DeletePeer" "if" 0) then some s
       else some { s with peers := s.peers.filter (·.1 != k) }) ∧
    decision "Server.DeletePeer" "if" 1 = .atom "s.serving" := by
  refine ⟨?_, d_life.2.2.2.1⟩
  simp only [d_life, eval_not, eval_atom, lifeEnv, envOf_cons, ↓reduceIte, b2i_ne_zero, lstep]
  cases hasKey s k <;> simp

/-- `Close`: returns at once iff `!s.serving`, otherwise waits for the tear-down -/
theorem close_decision (s : LState) :
    lstep s .closeCall =
      some { s with closeSignalled := true,
                    closers := s.closers ++ [if BExp.eval (lifeEnv s 0) (decision "Server.Close" "if" 0) then .returned else .waiting] } := by
  simp only [d_life, eval_not, eval_atom, lifeEnv, envOf_cons, String.reduceEq, ↓reduceIte, b2i_ne_zero, lstep]
  cases s.serving <;> simp

end CoreBGP.Props.DecTieC20
