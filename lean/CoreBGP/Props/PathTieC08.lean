import CoreBGP.Props.PathTie
/-! Path tie of C08: the reader goroutine (`fsm.read`) in the regenerated control paths of `fsm.go`. -/
namespace CoreBGP.Props.PathTieC08
open CoreBGP CoreBGP.Model CoreBGP.Gen CoreBGP.Props.PathTie

def lenGuard : String := "bodyLen<0||bodyLen+headerLength>maxMessageLength"

/-- the order of the checks of one iteration, as `Model.readOne` has it: the header is read whole before the marker
is looked at; the length is judged only once all 16 marker octets passed; the body is read only for an acceptable length
(and only if there is one); the message is decoded only after its body was read whole -/
theorem check_order :
    (∀ p ∈ pathsOf "read", p.guards.contains (lenGuard, true) = true ∨ p.guards.contains (lenGuard, false) = true →
      p.guards.head? = some ("i<16", false)) ∧
    (∀ p ∈ pathsOf "read", p.calls.contains "messageFromBytes" = true →
      p.guards.contains (lenGuard, false) = true ∧
      (p.guards.contains ("bodyLen>0", false) = true ∨ p.guards.contains ("io.ReadFull()!=nil", false) = true)) ∧
    (∀ p ∈ pathsOf "read", p.guards.contains ("bodyLen>0", true) = true → p.guards.contains (lenGuard, false) = true) ∧
    (∀ p ∈ pathsOf "read", p.guards.contains ("i<16", true) = true ∧ p.guards.contains ("header[i]!=0xFF", false) = true →
      p.exit = "loop" ∧ p.calls = []) := by
  decide +kernel

/-- a fault ends the reader: every path on which a check failed reports on `readerErrCh` (or gives way to `closeReaderCh`)
and returns; only a decoded message goes to `readerMsgCh`, after which the loop continues -/
theorem faults_end_the_reader :
    (∀ p ∈ pathsOf "read",
      (p.guards.contains ("header[i]!=0xFF", true) || p.guards.contains (lenGuard, true) || p.guards.contains ("io.ReadFull()!=nil", true) ||
        p.guards.contains ("messageFromBytes()!=nil", true)) = true →
      p.exit = "return" ∧ (p.guards.getLast? = some ("select send f.readerErrCh", true) ∨ p.guards.getLast? = some ("select recv f.closeReaderCh", true))) ∧
    (∀ p ∈ pathsOf "read", p.guards.contains ("select send f.readerMsgCh", true) = true →
      p.exit = "loop" ∧ p.guards.contains ("messageFromBytes()!=nil", false) = true) := by
  decide +kernel

/-- the reader never blocks without the way out: every hand-over to the FSM has the `closeReaderCh` alternative next to it,
and every path that returns closes `readerDoneCh` (the join the FSM waits for) -/
theorem reader_cancellable :
    (∀ p ∈ pathsOf "read", (p.guards.getLast? = some ("select send f.readerErrCh", true) ∨ p.guards.getLast? = some ("select send f.readerMsgCh", true)) →
      (pathsOf "read").any (fun q => q.guards.dropLast == p.guards.dropLast && q.guards.getLast? == some ("select recv f.closeReaderCh", true)) = true) ∧
    (∀ p ∈ pathsOf "read", p.exit = "return" → p.calls.getLast? = some "deferred close(f.readerDoneCh)") := by
  decide +kernel

end CoreBGP.Props.PathTieC08
