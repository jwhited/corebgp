import CoreBGP.Model.Reconnect
/-!
# C11 (timed half) — retry pacing and bounded reconnection, on the timed model of Idle / Connect / Active

What is proved is about the model's deadlines (a timer event is enabled only from its deadline on);
that the real system acts within scheduling noise of them is observed by the live engine's pacing
monitor (partial in that sense).

What `due` and the single events of `rstep` do comes first, under `Lemmas.Reconnect`. Every event but `tick`
is a guarded assignment `if g then some s'' else none`, so
`Option.ite_none_right_eq_some` turns `rstep s e = some s'` into the guard and `s'' = s'`. -/
namespace CoreBGP.Lemmas.Reconnect
open CoreBGP CoreBGP.Model

theorem due_iff {dl : Option Nat} {now : Nat} : due dl now = true ↔ ∃ d, dl = some d ∧ d ≤ now := by
  cases dl <;> simp [due]

theorem due_after_wait {dl : Option Nat} {d now : Nat} (h : dl = some d) :
    due dl (now + (dl.getD now - now)) = true := by
  subst h; simp only [due, Option.getD_some, decide_eq_true_eq]; omega

theorem idleFire_guard {s s' : RSess} (hs : rstep s .idleFire = some s') :
    s.st = .idle ∧ ∃ d, s.idleDl = some d ∧ d ≤ s.now := by
  simp only [rstep, Option.ite_none_right_eq_some, Bool.and_eq_true, decide_eq_true_eq, due_iff] at hs
  exact hs.1

theorem crFireRedial_eq {s s' : RSess} (hs : rstep s .crFireRedial = some s') :
    s' = { s with crDl := some (s.now + s.cr), dialing := true } ∧ s.st = .connect := by
  simp only [rstep, Option.ite_none_right_eq_some, Option.some.injEq, Bool.and_eq_true, decide_eq_true_eq] at hs
  exact ⟨hs.2.symm, hs.1.1⟩

theorem idleFire_enabled {s : RSess} (hst : s.st = .idle) (hdue : due s.idleDl s.now = true) :
    rstep s .idleFire =
      some { s with st := .connect, crDl := some (s.now + s.cr), dialing := true, idleDl := some (s.now + s.ih), lastIdleExit := some s.now } := by
  simp only [rstep, hst, hdue, decide_true, Bool.and_self, if_true]

theorem crFireRedial_enabled {s : RSess} (hst : s.st = .connect) (hdue : due s.crDl s.now = true) :
    rstep s .crFireRedial = some { s with crDl := some (s.now + s.cr), dialing := true } := by
  simp only [rstep, hst, hdue, decide_true, Bool.and_self, if_true]

theorem crFireActive_enabled {s : RSess} (hst : s.st = .active) (hdue : due s.crDl s.now = true) :
    rstep s .crFireActive = some { s with st := .connect, crDl := some (s.now + s.cr), dialing := true } := by
  simp only [rstep, hst, hdue, decide_true, Bool.and_self, if_true]

theorem dialOK_enabled {s : RSess} (hst : s.st = .connect) (hd : s.dialing = true) :
    rstep s .dialOK = some { s with st := .connected, crDl := none, dialing := false } := by
  simp only [rstep, hst, hd, decide_true, Bool.and_self, if_true]

end CoreBGP.Lemmas.Reconnect

namespace CoreBGP.Props.C11T
open CoreBGP CoreBGP.Model
open CoreBGP.Lemmas.Reconnect

/-- invariant: the idle-hold timer is always armed; after an exit from Idle it is armed for exactly
that exit + idle-hold; the connect-retry timer is armed whenever the FSM is in Connect or Active,
for at most `now + cr` -/
def Inv (s : RSess) : Prop :=
  (∃ d, s.idleDl = some d) ∧
  (∀ t, s.lastIdleExit = some t → s.idleDl = some (t + s.ih) ∧ t ≤ s.now) ∧
  (s.lastIdleExit = none → s.st = .idle ∧ ∃ d, s.idleDl = some d ∧ d ≤ s.now) ∧
  ((s.st = .connect ∨ s.st = .active) → ∃ d, s.crDl = some d ∧ d ≤ s.now + s.cr) ∧
  (s.st = .connect → s.dialing = true)

theorem inv_init (ih cr t0 : Nat) : Inv (rInit ih cr t0) :=
  ⟨⟨t0, rfl⟩, nofun, fun _ => ⟨rfl, t0, rfl, Nat.le_refl _⟩, by simp [rInit], by simp [rInit]⟩

theorem inv_step {s s' : RSess} {e : REv} (hi : Inv s) (hs : rstep s e = some s') :
    Inv s' ∧ s'.ih = s.ih ∧ s'.cr = s.cr := by
  obtain ⟨h1, h2, h3, h4, h5⟩ := hi
  cases e <;>
    simp only [rstep, Option.ite_none_right_eq_some, Option.some.injEq, Bool.and_eq_true, decide_eq_true_eq] at hs
  case tick dt =>
    subst hs
    refine ⟨⟨h1, fun t ht => ?_, fun hn => ?_, fun hst => ?_, h5⟩, rfl, rfl⟩
    · exact ⟨(h2 t ht).1, Nat.le_add_right_of_le (h2 t ht).2⟩
    · obtain ⟨a, d, hd, hle⟩ := h3 hn
      exact ⟨a, d, hd, Nat.le_add_right_of_le hle⟩
    · obtain ⟨d, hd, hle⟩ := h4 hst
      exact ⟨d, hd, by show d ≤ s.now + dt + s.cr; omega⟩
  case idleFire =>
    obtain ⟨-, rfl⟩ := hs
    exact ⟨⟨⟨_, rfl⟩, fun t ht => by cases ht; exact ⟨rfl, Nat.le_refl _⟩, nofun,
      fun _ => ⟨_, rfl, Nat.le_refl _⟩, fun _ => rfl⟩, rfl, rfl⟩
  -- the other events start outside Idle and leave `now`, the idle-hold timer and the ghost alone;
  -- the connect-retry timer is freshly armed or the new state needs none
  all_goals
    obtain ⟨hg, rfl⟩ := hs
    have hne : s.st ≠ .idle := by simp [hg]
    exact ⟨⟨h1, h2, fun hn => absurd (h3 hn).1 hne, by simp, by simp⟩, rfl, rfl⟩

theorem inv_reachable (ih cr t0 : Nat) (s : RSess) (h : RReach ih cr t0 s) : Inv s ∧ s.ih = ih ∧ s.cr = cr := by
  induction h with
  | init => exact ⟨inv_init ih cr t0, rfl, rfl⟩
  | step _ hs ihyp =>
    obtain ⟨hi', h1', h2'⟩ := inv_step ihyp.1 hs
    exact ⟨hi', h1'.trans ihyp.2.1, h2'.trans ihyp.2.2⟩

/-- pacing: an exit from Idle (the start of an outbound attempt from Idle) is enabled only once the
idle-hold time has passed since the previous exit from Idle — successive attempts under refusal are
spaced by the idle-hold time, never back to back -/
theorem paced (ih cr t0 : Nat) (s s' : RSess) (h : RReach ih cr t0 s) (t : Nat)
    (hl : s.lastIdleExit = some t) (hs : rstep s .idleFire = some s') : s.now ≥ t + ih := by
  obtain ⟨⟨_, h2, _⟩, hih, _⟩ := inv_reachable ih cr t0 s h
  obtain ⟨_, d, hd, hle⟩ := idleFire_guard hs
  obtain ⟨hd', _⟩ := h2 t hl
  rw [hd'] at hd
  simp only [Option.some.injEq] at hd
  omega

/-- every attempt that is abandoned by the connect-retry timer is replaced by a new one at once, and
the timer is re-armed for the new attempt -/
theorem retry_rearms (ih cr t0 : Nat) (s s' : RSess) (h : RReach ih cr t0 s)
    (hs : rstep s .crFireRedial = some s') : s'.st = .connect ∧ s'.dialing = true ∧ s'.crDl = some (s.now + cr) := by
  obtain ⟨_, _, hcr⟩ := inv_reachable ih cr t0 s h
  obtain ⟨he, hst⟩ := crFireRedial_eq hs
  subst he
  exact ⟨hst, rfl, by rw [← hcr]⟩

theorem attempt_within_max (ih cr t0 : Nat) (s : RSess) (h : RReach ih cr t0 s) :
    timeToAttempt s ≤ max ih cr := by
  obtain ⟨⟨_, h2, h3, h4, _⟩, rfl, rfl⟩ := inv_reachable ih cr t0 s h
  unfold timeToAttempt
  split
  · cases hl : s.lastIdleExit with
    | none => obtain ⟨_, d, hd, _⟩ := h3 hl; rw [hd, Option.getD_some]; omega
    | some t => rw [(h2 t hl).1, Option.getD_some]; have := (h2 t hl).2; omega
  · next hst => obtain ⟨d, hd, _⟩ := h4 (.inl hst); rw [hd, Option.getD_some]; omega
  · next hst => obtain ⟨d, hd, _⟩ := h4 (.inr hst); rw [hd, Option.getD_some]; omega
  · omega

/-- bounded reconnection: from every reachable state the next attempt (which a well-behaved remote
accepts) starts within max(idle-hold, connect-retry) ≤ idle-hold + connect-retry, if timer events
are taken as soon as they are enabled -/
theorem attempt_within_bound (ih cr t0 : Nat) (s : RSess) (h : RReach ih cr t0 s) :
    timeToAttempt s ≤ ih + cr :=
  Nat.le_trans (attempt_within_max ih cr t0 s h) (Nat.max_le.2 ⟨Nat.le_add_right .., Nat.le_add_left ..⟩)

/-- … and after waiting that long the attempt is enabled: in Idle the idle-hold event, in Connect /
Active the connect-retry event; the attempt's success (`dialOK`) then leads out of this model -/
theorem attempt_enabled (ih cr t0 : Nat) (s : RSess) (h : RReach ih cr t0 s) (hc : s.st ≠ .connected) :
    ∃ e s', (e = .idleFire ∨ e = .crFireRedial ∨ e = .crFireActive) ∧
      rstep { s with now := s.now + timeToAttempt s } e = some s' ∧ s'.st = .connect ∧ s'.dialing = true ∧
      ∃ s'', rstep s' .dialOK = some s'' ∧ s''.st = .connected := by
  obtain ⟨⟨⟨d, hd⟩, _, _, h4, _⟩, _⟩ := inv_reachable ih cr t0 s h
  -- (`match` puts the constructor for `s.st` into the goal, hence the `rfl`s)
  match hst : s.st with
  | .idle =>
    have hw : timeToAttempt s = s.idleDl.getD s.now - s.now := by simp only [timeToAttempt, hst]
    exact ⟨.idleFire, _, .inl rfl, idleFire_enabled rfl (hw ▸ due_after_wait hd), rfl, rfl,
      _, dialOK_enabled rfl rfl, rfl⟩
  | .connect =>
    obtain ⟨d, hd, _⟩ := h4 (.inl hst)
    have hw : timeToAttempt s = s.crDl.getD s.now - s.now := by simp only [timeToAttempt, hst]
    exact ⟨.crFireRedial, _, .inr (.inl rfl), crFireRedial_enabled rfl (hw ▸ due_after_wait hd), rfl, rfl,
      _, dialOK_enabled rfl rfl, rfl⟩
  | .active =>
    obtain ⟨d, hd, _⟩ := h4 (.inr hst)
    have hw : timeToAttempt s = s.crDl.getD s.now - s.now := by simp only [timeToAttempt, hst]
    exact ⟨.crFireActive, _, .inr (.inr rfl), crFireActive_enabled rfl (hw ▸ due_after_wait hd), rfl, rfl,
      _, dialOK_enabled rfl rfl, rfl⟩
  | .connected => exact absurd hst hc

/-- a refused attempt goes back to Idle with the connect-retry timer stopped -/
theorem refused_to_idle (s s' : RSess) (hs : rstep s .dialFailed = some s') : s'.st = .idle ∧ s'.crDl = none := by
  simp only [rstep, Option.ite_none_right_eq_some, Option.some.injEq] at hs
  obtain ⟨-, rfl⟩ := hs
  exact ⟨rfl, rfl⟩

-- non-vacuity: three refused attempts are 200 ms apart (ih = 200 ms)
example : (([REv.idleFire, .dialFailed, .tick 200000000, .idleFire, .dialFailed, .tick 199999999, .idleFire].foldl
    (fun (s : Option RSess) e => s.bind (rstep · e)) (some (rInit 200000000 500000000 0)))) = none := by decide
example : (([REv.idleFire, .dialFailed, .tick 200000000, .idleFire].foldl
    (fun (s : Option RSess) e => s.bind (rstep · e)) (some (rInit 200000000 500000000 0)))).isSome := by decide

end CoreBGP.Props.C11T
